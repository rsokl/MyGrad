-- Root of the `MG` library: models (Core), generated files (Gen), line-protocol handlers (IO) and proofs (Proofs).
-- `lake build MG` builds and checks everything; the driver entry points (MG.Driver, MG.DriverEng, MG.DriverCtx,
-- MG.IO.LockMain) are built as extra targets by setup.sh.
import MG.Core.Ctx
import MG.Core.Dtype
import MG.Core.Nnet
import MG.Core.Lock
import MG.Core.Linear
import MG.Core.Routes
import MG.Core.SaveLoad
import MG.Core.InPlace
import MG.Gen.ScalarOps
import MG.Gen.Tables
import MG.Proofs.C01
import MG.Proofs.Lemmas.Transpose
import MG.Proofs.Lemmas.Analytic
import MG.Proofs.Lemmas.NDIndexLemmas
import MG.Proofs.Lemmas.WriteRead
import MG.Proofs.Lemmas.InPlaceRefine
import MG.Proofs.Lemmas.InPlaceView
import MG.Proofs.C02Scalar.Arith
import MG.Proofs.C02Scalar.ExpLog
import MG.Proofs.C02Scalar.Hyp
import MG.Proofs.C02Scalar.InvHyp
import MG.Proofs.C02Scalar.InvTrig
import MG.Proofs.C02Scalar.Misc
import MG.Proofs.C02Scalar.Nnet
import MG.Proofs.C02Scalar.Trig
import MG.Proofs.C02Struct
import MG.Proofs.C02StructReal
import MG.Proofs.C03
import MG.Proofs.C04
import MG.Proofs.C05
import MG.Proofs.C06
import MG.Proofs.C07
import MG.Proofs.C08
import MG.Proofs.C09
import MG.Proofs.C10
import MG.Proofs.C11
import MG.Proofs.C11Real
import MG.Proofs.C12
import MG.Proofs.C13
import MG.Proofs.C14
import MG.Proofs.C15
import MG.Proofs.C16
import MG.Proofs.C16Softmax
import MG.Proofs.C17
import MG.Proofs.C18
