import Mathlib.Analysis.SpecialFunctions.Pow.Real

/-!
# C11 — the formulas behind `MG.C11.ProvedEquivalent`, over ℝ

`x ** 2` and `power(x, 2)`, `x ** 1` and `power(x, 1)` reach different `Operation` classes (`C11.lean`).  Here their
forward and VJP formulas are proved equal, and `clip` is shown to be the clamp it is documented to be.  These are the only
facts of C11 about real numbers; they stand apart so that evaluating the recorded table does not load real analysis.
-/

namespace MG.C11

/-! ### the formulas (mirrored from src/mygrad/math/arithmetic/ops.py:67-103) -/

/-- `Power.__call__`: `np.power(x, y)` -/
noncomputable def powerFwd (x y : ℝ) : ℝ := x ^ y
/-- `Power.backward_var(index=0)`: `grad * y * x ** np.where(y, y - 1, 1)` -/
noncomputable def powerVjp (g x y : ℝ) : ℝ := g * y * x ^ (if y ≠ 0 then y - 1 else 1)
/-- `Square.__call__`: `np.square(x)` -/
def squareFwd (x : ℝ) : ℝ := x * x
/-- `Square.backward_var`: `grad = 2 * grad; grad *= x` -/
def squareVjp (g x : ℝ) : ℝ := 2 * g * x
/-- `Positive.__call__` / `backward_var` -/
def positiveFwd (x : ℝ) : ℝ := x
def positiveVjp (g : ℝ) : ℝ := g

/-- `Power(·, 2) ≡ Square`: same value `x²`, same VJP `2·x·g`. -/
theorem power_two_equiv_square (g x : ℝ) :
    powerFwd x 2 = squareFwd x ∧ powerVjp g x 2 = squareVjp g x := by
  constructor
  · unfold powerFwd squareFwd
    rw [Real.rpow_two]; ring
  · unfold powerVjp squareVjp
    have h : (2 : ℝ) ≠ 0 := by norm_num
    rw [if_pos h]
    have : (2 : ℝ) - 1 = 1 := by norm_num
    rw [this, Real.rpow_one]; ring

/-- `Power(·, 1) ≡ Positive`: same value `x`, same VJP `g`. -/
theorem power_one_equiv_positive (g x : ℝ) :
    powerFwd x 1 = positiveFwd x ∧ powerVjp g x 1 = positiveVjp g := by
  constructor
  · unfold powerFwd positiveFwd
    rw [Real.rpow_one]
  · unfold powerVjp positiveVjp
    have h : (1 : ℝ) ≠ 0 := by norm_num
    rw [if_pos h]
    have : (1 : ℝ) - 1 = 0 := by norm_num
    rw [this, Real.rpow_zero]; ring

/-- `clip(a, lo, hi)` is `minimum(hi, maximum(lo, a))` (src/mygrad/math/misc/funcs.py: clip); for `lo ≤ hi` that is the
    clamp of `x` to `[lo, hi]`. -/
theorem clip_eq_min_max (x lo hi : ℝ) (h : lo ≤ hi) :
    min hi (max lo x) = if x < lo then lo else if hi < x then hi else x := by
  split_ifs with h1 h2
  · rw [max_eq_left (le_of_lt h1), min_eq_right h]
  · rw [max_eq_right (le_of_not_gt h1), min_eq_left (le_of_lt h2)]
  · rw [max_eq_right (le_of_not_gt h1), min_eq_right (le_of_not_gt h2)]

end MG.C11
