import MG.Core.InPlace
import MG.Proofs.Lemmas.Frame
/-!
# C07 — `backward()` releases the whole graph; gradients never go stale

State rules of the engine model: what `clear_graph` and `backward` do to the fields that hold the graph
together (`_creator`, `_ops`), and what a view op does to the gradient of a left-over view it disconnects
from its base.  CPython's reference counting itself is observed by the harness, not modelled.
-/
namespace MG.C07
open MG.Eng

/-- a tensor that has been released from the graph: no creator, no recorded consumers -/
def Cleared (h : Heap) (u : Nat) : Prop := (h.t u).creator = none ∧ (h.t u).ops = []

/-- the graph fields of every tensor only ever shrink under a step `h → h'` -/
def Shrinks (h h' : Heap) : Prop :=
  (∀ u, (h'.t u).creator = (h.t u).creator ∨ (h'.t u).creator = none) ∧
  (∀ u, (h'.t u).ops = (h.t u).ops ∨ (h'.t u).ops = []) ∧
  (∀ f, h'.op f = h.op f)

theorem Shrinks.cleared {h h' : Heap} (hs : Shrinks h h') {u : Nat} (hc : Cleared h u) : Cleared h' u :=
  ⟨(hs.1 u).elim (fun e => e.trans hc.1) id, (hs.2.1 u).elim (fun e => e.trans hc.2) id⟩

theorem _root_.MG.Eng.TStep.shrinks {h h' : Heap} (s : TStep ShrinkR h h') : Shrinks h h' :=
  ⟨fun u => (s.t u).1, fun u => (s.t u).2, s.op⟩

/-- `clear_graph` only ever removes graph information -/
theorem clearGraph_shrinks (fuel : Nat) (h : Heap) (t : Nat) : Shrinks h (clearGraph fuel h t) :=
  (clearGraph_step fuel h t).shrinks

theorem Cleared.foldl {h : Heap} {u : Nat} (hc : Cleared h u) (fuel : Nat) (vs : List Nat) :
    Cleared (vs.foldl (clearGraph fuel) h) u :=
  (TStep.foldl _ (clearGraph_step fuel) vs h).shrinks.cleared hc

/-- **clearGraph_clears_root.**  After `clear_graph` the tensor it was called on has no creator and
no recorded consumers (and it can never get them back during the recursion). -/
theorem clearGraph_clears_root (fuel : Nat) (h : Heap) (t : Nat) : Cleared (clearGraph (fuel + 1) h t) t := by
  obtain ⟨h1, hp, e⟩ := clearGraph_succ fuel h t
  rw [e]
  split
  · rename_i hcr
    exact ⟨by rw [t_modT_self, ← hcr]; exact congrArg Prod.fst (hp.t t), by rw [t_modT_self]⟩
  · exact Cleared.foldl ⟨by rw [t_modT_self], by rw [t_modT_self]⟩ ..

/-- a fold of calls releases each tensor of the list: its own call does, and what is released stays so -/
theorem Cleared.of_mem_foldl {fuel : Nat} (hpos : 0 < fuel) {vs : List Nat} {v : Nat} (hv : v ∈ vs) (h : Heap) :
    Cleared (vs.foldl (clearGraph fuel) h) v := by
  obtain ⟨k, rfl⟩ := Nat.exists_eq_add_one_of_ne_zero (Nat.ne_of_gt hpos)
  obtain ⟨l1, l2, rfl⟩ := List.append_of_mem hv
  rw [List.foldl_append, List.foldl_cons]
  exact (clearGraph_clears_root k _ v).foldl ..

/-- **clearGraph_clears_inputs.**  … and so has every input of the op that created it: the recursion
reaches each of them, and what it clears stays cleared.  (Further upstream this holds only if the fuel
— CPython's stack — covers the longest path to the tensor, not merely some path: `clearGraph_clears_upstream`.) -/
theorem clearGraph_clears_inputs (fuel : Nat) (h : Heap) (t f : Nat) (hcr : (h.t t).creator = some f)
    (v : Nat) (hv : v ∈ (h.op f).vars) : Cleared (clearGraph (fuel + 2) h t) v := by
  obtain ⟨h1, -, e⟩ := clearGraph_succ (fuel + 1) h t
  simp only [e, hcr]
  exact .of_mem_foldl (Nat.succ_pos _) hv _

/-- `u` is upstream of `t` in the heap `h0`: reachable through creators and their variables
(through constants too: `clear_graph` does not stop at constants) -/
inductive Up (h0 : Heap) : Nat → Nat → Prop
  | refl (t : Nat) : Up h0 t t
  | step {t f v u : Nat} : (h0.t t).creator = some f → v ∈ (h0.op f).vars → Up h0 v u → Up h0 t u

theorem Up.trans {h0 : Heap} {a b c : Nat} (h1 : Up h0 a b) (h2 : Up h0 b c) : Up h0 a c := by
  induction h1 with
  | refl t => exact h2
  | step hc hv _ ih => exact Up.step hc hv (ih h2)

/-- invariant of the recursion relative to the heap `h0` it started from: graph fields only shrank, and every
tensor whose creator has been dropped — except those in `S`, whose call is still in progress — has had all the
inputs of that creator released -/
structure InvS (h0 : Heap) (S : List Nat) (h : Heap) : Prop where
  shrunk : TStep ShrinkR h0 h
  closed : ∀ w f v, w ∉ S → (h0.t w).creator = some f → (h.t w).creator = none →
    v ∈ (h0.op f).vars → Cleared h v

theorem InvS.step {h0 : Heap} {S S' : List Nat} {h h' : Heap} (hi : InvS h0 S h) (hs : TStep ShrinkR h h')
    (hcr : ∀ w, w ∉ S' → w ∉ S ∧ (h'.t w).creator = (h.t w).creator) : InvS h0 S' h' :=
  ⟨hi.shrunk.trans hs, fun w f v hw h0c hc hv =>
    hs.shrinks.cleared (hi.closed w f v (hcr w hw).1 h0c ((hcr w hw).2 ▸ hc) hv)⟩

/-- with no call in progress, released tensors have their whole upstream released -/
theorem InvS.up {h0 h : Heap} (hi : InvS h0 [] h) {t u : Nat} (hu : Up h0 t u) (hc : Cleared h t) :
    Cleared h u := by
  induction hu with
  | refl t => exact hc
  | step hcr hv _ ih => exact ih (hi.closed _ _ _ List.not_mem_nil hcr hc.1 hv)

/-- The induction behind `clearGraph_clears_upstream`.  With enough fuel for the depth of the graph,
`clear_graph(t)` re-establishes the invariant — whatever the sharing (diamonds, repeated operands) and the order of
visits: a tensor met a second time has no creator any more and is not descended into; its inputs have been
released already, or its own call is still in progress and will see to them.  (The rank is there to bound the
fuel only.  Fuel for the distance from `t` is not enough: a shared tensor may be met first at the end of a long
path, with no fuel left for its inputs, and is not descended into when met again.) -/
theorem clearGraph_invS (h0 : Heap) (rank : Nat → Nat)
    (hdag : ∀ t f v, (h0.t t).creator = some f → v ∈ (h0.op f).vars → rank v < rank t) :
    ∀ (fuel : Nat) (h : Heap) (t : Nat) (S : List Nat), rank t < fuel → InvS h0 S h →
      InvS h0 S (clearGraph fuel h t) := by
  intro fuel
  induction fuel with
  | zero => intro h t S hlt; omega
  | succ fuel ih =>
    intro h t S hlt hinv
    obtain ⟨h1, hp, e⟩ := clearGraph_succ fuel h t
    rw [e]
    have hinv1 : InvS h0 S h1 :=
      hinv.step (hp.mono fun _ _ => .of_keeps) fun w hw => ⟨hw, congrArg Prod.fst (hp.t w)⟩
    cases hcr : (h.t t).creator with
    | none =>
      exact hinv1.step (.modT t _ fun _ => ⟨.inl rfl, .inr rfl⟩)
        fun w hw => ⟨hw, t_modT_field _ _ _ _ (·.creator) fun _ => rfl⟩
    | some f =>
      -- the creator `t` has now is the one it had in `h0`
      have hf0 : (h0.t t).creator = some f := (hinv.shrunk.t t).1.elim (· ▸ hcr) fun e => nomatch e.symm.trans hcr
      have hlt' (v : Nat) (hv : v ∈ (h0.op f).vars) : rank v < fuel := by have := hdag t f v hf0 hv; omega
      simp only
      rw [show h.op f = h0.op f from hinv.shrunk.op f]
      -- dropping the creator puts `t` among the calls in progress, where it stays while its inputs are visited
      have hinv3 : InvS h0 (t :: S) (h1.modT t fun x => { x with vchildren := [], ops := [], creator := none }) :=
        hinv1.step (.modT t _ fun _ => ⟨.inr rfl, .inr rfl⟩) fun w hw =>
          ⟨List.not_mem_of_not_mem_cons hw, congrArg Tens.creator (t_modT_ne _ _ _ _ (List.ne_of_not_mem_cons hw))⟩
      have hiF := List.foldlRecOn (motive := InvS h0 (t :: S)) (h0.op f).vars (clearGraph fuel) hinv3
        fun hh hi v hv => ih hh v (t :: S) (hlt' v hv) hi
      refine ⟨hiF.shrunk, fun w f' v hw h0c hc hv => ?_⟩
      -- the call on `t` is over: its inputs have just been released
      by_cases hwt : w = t
      · subst hwt
        cases hf0.symm.trans h0c
        exact .of_mem_foldl (Nat.zero_lt_of_lt (hlt' v hv)) hv _
      · exact hiF.closed w f' v (fun hm => (List.mem_cons.mp hm).elim hwt hw) h0c hc hv

/-- **clearGraph_clears_upstream.**  On an acyclic heap, `clear_graph(t)` — hence every completed
`backward()` from `t` — leaves `t` and every tensor upstream of it (through any number of ops,
shared inputs, constants) without a creator and without recorded consumers. -/
theorem clearGraph_clears_upstream (h : Heap) (rank : Nat → Nat)
    (hdag : ∀ t f v, (h.t t).creator = some f → v ∈ (h.op f).vars → rank v < rank t)
    (t : Nat) (fuel : Nat) (hfuel : rank t < fuel) :
    ∀ u, Up h t u → Cleared (clearGraph fuel h t) u := by
  have hi := clearGraph_invS h rank hdag fuel h t [] hfuel
    ⟨.refl h, fun w f v _ h0c hc => by rw [h0c] at hc; cases hc⟩
  cases fuel with
  | zero => omega
  | succ k => exact fun u hu => hi.up hu (clearGraph_clears_root k h t)

/-- a completed `backward` ends with `clear_graph`, called with fuel to spare on a heap that has the creators and
op records of the heap it started from -/
theorem backward_ok_form (h : Heap) (L : Nat) (seed : Seed) (h' : Heap) (hok : backward h L seed = .ok h') :
    ∃ hh, h' = clearGraph hh.fuel hh L ∧ TStep (Keeps (·.creator)) h hh := by
  obtain ⟨hh, s, e | ⟨_, e⟩⟩ := backward_exits (·.creator) (fun _ _ _ _ _ => rfl) h L seed
  · exact ⟨hh, Except.ok.inj (hok.symm.trans e), s⟩
  · cases hok.symm.trans e

/-- **backward_clears_graph.**  A completed `backward` ends with `clear_graph` on the terminal tensor:
it (and, by `backward_clears_upstream`, what is upstream of it) has no creator and no consumers. -/
theorem backward_clears_graph (h : Heap) (L : Nat) (seed : Seed) (h' : Heap)
    (hok : backward h L seed = .ok h') : Cleared h' L := by
  obtain ⟨hh, rfl, -⟩ := backward_ok_form h L seed h' hok
  exact clearGraph_clears_root _ _ _

theorem Up.congr {h h' : Heap} (hc : ∀ t, (h'.t t).creator = (h.t t).creator) (ho : ∀ f, h'.op f = h.op f)
    {t u : Nat} (hu : Up h t u) : Up h' t u := by
  induction hu with
  | refl t => exact Up.refl t
  | step hcr hv _ ih => exact Up.step (by rw [hc]; exact hcr) (by rw [ho]; exact hv) ih

/-- **backward_clears_upstream.**  After a completed `backward()` on an acyclic heap, the terminal
tensor and *every* tensor upstream of it has no creator and no recorded consumers. -/
theorem backward_clears_upstream (h : Heap) (L : Nat) (seed : Seed) (h' : Heap) (rank : Nat → Nat)
    (hdag : ∀ t f v, (h.t t).creator = some f → v ∈ (h.op f).vars → rank v < rank t)
    (hfuel : rank L < h.fuel) (hok : backward h L seed = .ok h') :
    ∀ u, Up h L u → Cleared h' u := by
  obtain ⟨hh, rfl, s⟩ := backward_ok_form h L seed h' hok
  intro u hu
  apply clearGraph_clears_upstream hh rank _ L hh.fuel _ u (Up.congr s.t s.op hu)
  · intro t f v hc hv
    rw [s.op] at hv
    exact hdag t f v ((s.t t).symm.trans hc) hv
  · have := s.next
    simp only [Heap.fuel] at hfuel ⊢
    omega

/-- **cleared_tensor_holds_no_strong_edge.**  The strong references a tensor holds into the graph are
`_creator` (→ the op → its variables) and `_base`.  Once cleared, the first is gone: the only tensor a
cleared tensor still keeps alive is its base, so ops, intermediates and placeholders upstream of it
are no longer reachable through it. -/
theorem cleared_tensor_holds_no_strong_edge (h : Heap) (u : Nat) (hc : Cleared h u) :
    strongSucc h u = (match (h.t u).base with | some b => [b] | none => []) := by
  simp only [strongSucc, hc.1, List.nil_append]
  cases (h.t u).base <;> rfl

/-- **disconnect_keeps_reported_grad.**  When a view op is applied to a view `p` that was left over from an
earlier graph epoch (it has a base but no creator), `Tensor._op` disconnects `p` from its base.  What `p.grad`
reports is the same before and after: the view of its base's gradient that it reported, or `None` once that
gradient had been discarded — never the contribution that once flowed through `p` itself. -/
theorem disconnect_keeps_reported_grad (h : Heap) (us : List Nat) (p : Nat)
    (hb : (h.t p).base.isSome = true) (hc : (h.t p).creator.isNone = true) :
    let h' := (prepInputs h us (some p)).1
    (h'.t p).base = none ∧ (gradProp h'.fuel h' p).2 = (gradProp h.fuel h p).2 := by
  intro h'
  -- `p` is disconnected first, keeping a copy of what it reports; the fold over the operands then can only drop
  -- further stale `.base` links
  have hp : (h'.t p).base = none ∧ (h'.t p).grad = (gradProp h.fuel h p).2 := by
    simp only [h', prepInputs, hb, hc, and_self, if_true]
    refine List.foldlRecOn (motive := fun hh : Heap => (hh.t p).base = none ∧ (hh.t p).grad = (gradProp h.fuel h p).2)
      us _ ⟨by simp, by simp [gradProp]⟩ fun hh ih v _ => ?_
    simp only [t_modT_self, Option.isNone_some, Bool.false_eq_true, if_false]
    split
    · by_cases e : p = v
      · subst e; simpa using ih.2
      · rwa [t_modT_ne _ _ _ _ e]
    · exact ih
  exact ⟨hp.1, (gradProp_of_base_none h' p hp.1).trans hp.2⟩

end MG.C07
