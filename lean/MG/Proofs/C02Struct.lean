import MG.Proofs.Lemmas.LinearBroadcast
import MG.Proofs.Lemmas.LinearMore
import MG.Proofs.Lemmas.LinearPerm

/-!
# C02 (structured stratum) — the backward pass of every index-arithmetic / linear operation is the
adjoint (VJP) of its forward pass

Model: `MG/Core/Linear.lean`; helper lemmas: `MG/Proofs/Lemmas/Linear*.lean`.  Everything is stated for flat vectors over an
arbitrary commutative semiring `R` (so: `Int` as run by the driver, `ℚ`, `ℝ`), for *every* index map,
matrix, mask, index list and pair of broadcast-compatible shapes — no bounds.

How the theorems are tied to `/repo`: for each operation × configuration the harness
(`harness/props/c02_struct.py`) recovers the index map `φ` (resp. the matrix `A`) from the *real*
forward pass, validates `forward = gather φ` (resp. `A x`) on random data, and requires the *real*
backward pass to equal `scatterAdd φ n g` (resp. `applyMatT A n g`) as computed by the driver from the
definitions below.  By `gather_scatter_adjoint` + `vjp_unique` that vector is *the* VJP.
-/

namespace MG.C02
open MG.Lin

variable {R : Type} [CommSemiring R]

/-! ## gather ops: transpose, moveaxis, swapaxes, reshape, squeeze, expand_dims, broadcast_to, getitem,
concatenate, stack, repeat, roll, diagonal einsums … -/

/-- **The** lemma of the structural ops (DESIGN.md §5 C02 (b)): for *every* index map `φ` (not necessarily injective, any lengths)
`⟨g, gather φ x⟩ = ⟨scatterAdd φ |x| g, x⟩`. -/
theorem gather_scatter_adjoint (φ : List Nat) (g x : List R) :
    dot g (gather φ x) = dot (scatterAdd φ x.length g) x := by
  rw [scatterAdd, dot_scatterAddInto _ _ _ _ (by simp)]
  simp

example : dot ([1, 2, 3] : List Int) (gather [0, 0, 2] [5, 6, 7]) = dot (scatterAdd [0, 0, 2] 3 [1, 2, 3]) [5, 6, 7] :=
  gather_scatter_adjoint _ _ _

/-- every linear map given by a matrix: `⟨g, A x⟩ = ⟨Aᵀ g, x⟩` (sum, mean·N, cumsum, matmul / einsum / conv
with the other operand fixed, AddSequence, …) -/
theorem linear_vjp_is_transpose (A : List (List R)) (g x : List R) (hA : ∀ row ∈ A, row.length = x.length) :
    dot g (applyMat A x) = dot (applyMatT A x.length g) x := by
  rw [applyMatT, dot_applyMatTInto _ _ _ _ (by simp) hA]
  simp

example : dot ([1, 1, 1] : List Int) (applyMat [[1, 2], [3, 4], [5, 6]] [7, 8]) =
    dot (applyMatT [[1, 2], [3, 4], [5, 6]] 2 [1, 1, 1]) [7, 8] :=
  linear_vjp_is_transpose _ _ _ (by decide)

/-- the adjoint is unique: a vector `h` with `⟨g, A x⟩ = ⟨h, x⟩` for all `x` *is* `Aᵀ g`.  So "the VJP" is
determined by the forward pass, and any backward pass that satisfies the adjoint identity equals
`applyMatT` — in particular `scatterAdd φ` for a gather. -/
theorem adjoint_unique (A : List (List R)) (n : Nat) (g h : List R) (hA : ∀ row ∈ A, row.length = n)
    (hh : h.length = n) (H : ∀ x : List R, x.length = n → dot g (applyMat A x) = dot h x) :
    h = applyMatT A n g := by
  apply eq_of_dot_eq n _ _ hh (length_applyMatT A n g hA)
  intro x hx
  rw [← H x hx]
  subst hx
  exact linear_vjp_is_transpose A g x hA

/-- uniqueness for gathers -/
theorem vjp_unique (φ : List Nat) (n : Nat) (g h : List R) (hh : h.length = n)
    (H : ∀ x : List R, x.length = n → dot g (gather φ x) = dot h x) : h = scatterAdd φ n g := by
  apply eq_of_dot_eq n _ _ hh (by simp)
  intro x hx
  rw [← H x hx]
  subst hx
  exact gather_scatter_adjoint φ g x

example : ([3, 0, 3] : List Int) = scatterAdd [0, 0, 2] 3 [1, 2, 3] := by decide

/-! ## transposes: `Transpose.backward_var` is `grad.transpose(np.argsort(self.axes))` -/

/-- `argsort` of a permutation of the axes is its inverse permutation (both compositions are the identity),
also after the normalisation `axis % ndim` of negative axes -/
theorem transpose_inverse (p : List Nat) (hp : p.Perm (List.range p.length)) :
    (argsort p).length = p.length ∧
    (∀ k, k < p.length → (argsort p).getD (p.getD k 0) 0 = k) ∧
    (∀ i, i < p.length → p.getD ((argsort p).getD i 0) 0 = i) :=
  ⟨length_argsort p, argsort_left_inv p hp, argsort_right_inv p hp⟩

example : argsort (normAxes 3 [-1, 0, 1]) = [1, 2, 0] := by decide

/-- the adjoint of a gather along a permutation `φ` of the positions is the gather along its inverse `ψ`
(a permutation matrix is orthogonal): with `transpose_inverse`, transposing `grad` by `argsort axes` is the
VJP of transposing by `axes`; the same lemma covers `MoveAxis`, `SwapAxes`, `Roll`, `.T`. -/
theorem permutation_vjp_is_inverse (φ ψ : List Nat) (n : Nat) (hφ : φ.Perm (List.range n))
    (hinv : ∀ k, k < n → ψ.getD (φ.getD k 0) 0 = k) (hψ : ψ.length = n) (g : List R) (hg : g.length = n) :
    scatterAdd φ n g = gather ψ g :=
  (vjp_unique φ n g (gather ψ g) (by simp [hψ]) fun x hx =>
    (dot_gather_perm φ ψ n hφ hinv hψ g x hg hx).symm).symm

example : scatterAdd [2, 0, 1] 3 ([10, 20, 30] : List Int) = gather (argsort [2, 0, 1]) [10, 20, 30] :=
  permutation_vjp_is_inverse [2, 0, 1] (argsort [2, 0, 1]) 3 (by decide) (by decide) (by decide) _ (by decide)

/-! ## the shared tail of `Operation.backward`: `where`-mask, then `reduce_broadcast` -/

/-- `np.where(m, y, c)` is linear in `(y, c)` with the complementary diagonal 0/1 operators: the branch
selected by the mask receives `m ⊙ g`, the other `¬m ⊙ g`.  Covers `Where` (index 0: condition, index 1:
`~condition`), the `where=` mask of ufuncs (`np.where(self.where, backed_grad, 0)`) and `ApplyMask`. -/
theorem where_mask_vjp (m : List Bool) (g y c : List R) (h1 : m.length = g.length) (h2 : m.length = y.length)
    (h3 : m.length = c.length) :
    dot g (select m y c) = dot (maskMul m g) y + dot (maskMul (notMask m) g) c := by
  have hl : (maskMul m y).length = (maskMul (notMask m) c).length := by simp [notMask, ← h2, ← h3]
  rw [select_eq_vadd, dot_comm, dot_vadd _ _ _ hl, dot_comm, dot_maskMul, dot_comm _ g, dot_maskMul]

example : dot ([1, 2, 3] : List Int) (select [true, false, true] [4, 5, 6] [7, 8, 9]) =
    dot (maskMul [true, false, true] [1, 2, 3]) [4, 5, 6] + dot (maskMul (notMask [true, false, true]) [1, 2, 3]) [7, 8, 9] :=
  where_mask_vjp _ _ _ _ rfl rfl rfl

/-- `reduce_broadcast(grad, var_shape)` — leading-axis sum, then keepdims-sum over the stretched axes, as
the code computes it — never fails on broadcast-compatible shapes (including 0-d and size-0 axes),
returns a vector of the variable's size and is the adjoint of broadcasting (`gather (bidx vs gs)`). -/
theorem reduce_broadcast_adjoint (vs gs : List Nat) (hc : compat vs gs = true) (y x : List R)
    (hy : y.length = size gs) (hx : x.length = size vs) :
    ∃ r, reduceBroadcast vs gs y = some r ∧ r.length = size vs ∧ dot r x = dot y (gather (bidx vs gs) x) := by
  obtain ⟨r, hr, hl, hd⟩ := reduceBroadcast_spec vs gs hc y hy
  exact ⟨r, hr, hl, hd x hx⟩

/-- … hence it *is* the scatter-add along the broadcast index map -/
theorem reduce_broadcast_eq_scatter (vs gs : List Nat) (hc : compat vs gs = true) (y : List R)
    (hy : y.length = size gs) : reduceBroadcast vs gs y = some (scatterAdd (bidx vs gs) (size vs) y) := by
  obtain ⟨r, hr, hl, hd⟩ := reduceBroadcast_spec vs gs hc y hy
  rw [hr, vjp_unique (bidx vs gs) (size vs) y r hl fun x hx => (hd x hx).symm]

example : reduceBroadcast [3, 1] [2, 3, 2] ([1, 2, 3, 4, 5, 6, 7, 8, 9, 10, 11, 12] : List Int) = some [18, 26, 34] := by
  decide

example : compat [2, 0, 1] [3, 2, 0, 4] = true ∧ compat [] [2, 2] = true ∧ compat [] [] = true := by decide

/-- the error branch is real: a gradient of lower rank than the variable is rejected -/
theorem reduce_broadcast_rank_error (vs gs : List Nat) (y : List R) (h : gs.length < vs.length) :
    reduceBroadcast vs gs y = none := by
  have : gs ≠ vs := fun e => by rw [e] at h; exact Nat.lt_irrefl _ h
  simp [reduceBroadcast, this, h]

/-! ## set-item -/

/-- `a[idx] = b` with last-write-wins (repeated positions allowed): the old contents receive `g` with the
written positions zeroed, the value receives `g[idx]` masked to the *winning* write of every position. -/
theorem setitem_vjp (g a : List R) (idx : List Nat) (b : List R) (hl : g.length = a.length)
    (hb : idx.length = b.length) :
    dot g (setitem a idx b) = dot (zeroAt g idx) a + dot (winCoef g idx) b := by
  induction idx, b, hb using length_eq_induction generalizing a with
  | nil => simp [setitem, zeroAt, winCoef]
  | cons i is v vs _ ih =>
    have h1 := ih (a.set i v) (by simpa using hl)
    have h2 := dot_set (zeroAt g is) a i v (by simpa using hl)
    simp only [setitem, h1, h2, zeroAt, zeroAt_set_comm, winCoef, dot_cons, getD_zeroAt,
      List.contains_eq_mem, decide_eq_true_eq]
    ring

example : dot ([10, 20, 30] : List Int) (setitem [1, 2, 3] [0, 1, 0] [5, 6, 7]) =
    dot (zeroAt [10, 20, 30] [0, 1, 0]) [1, 2, 3] + dot (winCoef [10, 20, 30] [0, 1, 0]) [5, 6, 7] :=
  setitem_vjp _ _ _ _ rfl rfl

/-- The full statement about `SetItem.backward_var` with its guard left free (the de-duplication only runs
when `_is_int_array_index` recognises the index as an integer array). -/
def setitem_vjp_statement : Prop :=
  ∀ (recognised : Bool) (g a : List Int) (idx : List Nat) (b : List Int), g.length = a.length →
    idx.length = b.length →
    dot g (setitem a idx b) = dot (zeroAt g idx) a + dot (setitemBwdValue recognised g idx) b

/-- … is false whenever the guard can miss a repeated integer index: witness
`x[np.array([0, 0], dtype=np.int32)] = b`, which the guard `np.issubdtype(·, np.int_)` of /repo before commit
00e4546 did miss (F1).  The harness replays this witness on the implementation on every run
(`struct_setitem_neg_witness_reproduces` in the evidence; `false` since the fix). -/
theorem setitem_vjp_neg : ¬ setitem_vjp_statement := by
  intro h
  have := h false [10] [0] [0, 0] [1, 1] rfl rfl
  revert this
  decide

/-- … and holds whenever the index is recognised as an integer array or has no repeated position -/
theorem setitem_vjp_partial (recognised : Bool) (g a : List R) (idx : List Nat) (b : List R)
    (H_recognised_or_distinct : recognised = true ∨ idx.Nodup) (hl : g.length = a.length)
    (hb : idx.length = b.length) :
    dot g (setitem a idx b) = dot (zeroAt g idx) a + dot (setitemBwdValue recognised g idx) b := by
  rw [setitem_vjp g a idx b hl hb, setitemBwdValue]
  split_ifs with hr
  · rfl
  · rw [winCoef_of_nodup g idx (H_recognised_or_distinct.resolve_left hr)]

example : dot ([10, 20] : List Int) (setitem [0, 0] [1, 0] [3, 4]) =
    dot (zeroAt [10, 20] [1, 0]) [0, 0] + dot (setitemBwdValue false [10, 20] [1, 0]) [3, 4] :=
  setitem_vjp_partial false _ _ _ _ (Or.inr (by decide)) rfl rfl

/-! ## cumulative sum -/

theorem rcumsum_is_suffix_sum (g : List R) : rcumsum g = suffixSums g := by
  induction g with
  | nil => rfl
  | cons a l ih =>
    unfold rcumsum at ih ⊢
    rw [List.reverse_cons, cumsum_append_singleton, List.reverse_append, ih]
    simp [suffixSums, vsum_reverse, add_comm]

/-- the adjoint of the prefix sum is the suffix sum, which is what `_reverse_cumsum`
(`flip ∘ cumsum ∘ flip`) computes -/
theorem cumsum_adjoint (g x : List R) (h : g.length = x.length) : dot g (cumsum x) = dot (rcumsum g) x := by
  rw [rcumsum_is_suffix_sum, dot_cumsum g x h]

example : dot ([1, 2, 3] : List Int) (cumsum [4, 5, 6]) = dot (rcumsum [1, 2, 3]) [4, 5, 6] :=
  cumsum_adjoint _ _ rfl

end MG.C02
