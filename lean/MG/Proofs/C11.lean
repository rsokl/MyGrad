import MG.Gen.Tables
import MG.Proofs.Lemmas.Routes

/-!
# C11 — every public entry point to an operation behaves identically

Property theorems only.  The table `MG/Gen/Tables.lean` is **recorded from /repo on every run** (translator tie,
`harness/props/c11.py: regen`): for every registered ufunc, every `__array_function__` override and every operator
dunder, the route each public spelling takes through `Tensor._op` / `Tensor._in_place_op`.

* `routes_agree` — over the complete table: two spellings of the same operation (same option variant) on the same
  operand classes in the same form reach the same `Operation` classes with the same operand permutation, the same
  normalised options and the same in-place flags — after mapping the three pairs of different classes that are proved
  equivalent below (`ProvedEquivalent`) to a common representative.
* `routes_same_target` — the same across forms (plain / augmented / out= / where= / dtype=): class and operands agree.
* Routes with equal class, operands and options run the same code, so values, dtype, constant flag and gradients
  coincide; for the `ProvedEquivalent` pairs the forward and VJP formulas are proved equal: the two powers over ℝ in
  `C11Real.lean`, the transposes below (`transpose_property_equiv_transpose`).
* `const_only_raise`, `no_diff_return_ndarray` — over the generated registry sets and their recorded behaviour.
-/

namespace MG.C11
open MG.Routes MG.Gen.Tables

/-- `x ** 2` / `x **= 2` reach `Square`, `x ** 1` reaches `Positive` (`Tensor.__pow__`, `__ipow__` in tensor_base.py) while
    `power(x, ·)` reaches `Power`; `x.T` reaches `Tensor_Transpose_Property` (`Tensor.T`) while `transpose(x)` reaches
    `Transpose`.  (A literal operand is recorded in thousandths: `.lit 2000` is the exponent 2, see `Core/Routes.lean`.) -/
inductive ProvedEquivalent : CallSig → CallSig → Prop
  | square (x : Arg) (o : List Nat) :
      ProvedEquivalent ⟨Target.Square, [x], o⟩ ⟨Target.Power, [x, .lit 2000], o⟩
  | positive (x : Arg) (o : List Nat) :
      ProvedEquivalent ⟨Target.Positive, [x], o⟩ ⟨Target.Power, [x, .lit 1000], o⟩
  | transposeProperty (x : Arg) (o : List Nat) :
      ProvedEquivalent ⟨Target.Tensor_Transpose_Property, [x], o⟩ ⟨Target.Transpose, [x], o⟩

def canon (c : CallSig) : CallSig :=
  match c.operands with
  | [x] =>
    if c.target = Target.Square then ⟨Target.Power, [x, .lit 2000], c.options⟩
    else if c.target = Target.Positive then ⟨Target.Power, [x, .lit 1000], c.options⟩
    else if c.target = Target.Tensor_Transpose_Property then ⟨Target.Transpose, [x], c.options⟩
    else c
  | _ => c

theorem canon_sound (c : CallSig) : canon c = c ∨ ProvedEquivalent c (canon c) := by
  obtain ⟨t, ops, o⟩ := c
  unfold canon
  match ops with
  | [] => exact Or.inl rfl
  | _ :: _ :: _ => exact Or.inl rfl
  | [x] =>
    simp only
    split
    · rename_i h; subst h; exact Or.inr (.square x o)
    · split
      · rename_i h; subst h; exact Or.inr (.positive x o)
      · split
        · rename_i h; subst h; exact Or.inr (.transposeProperty x o)
        · exact Or.inl rfl

/-- src/mygrad/tensor_manip/transpose_like/ops.py: `Transpose(axes=None)` uses `axes = range(ndim)[::-1]` forward and
    `grad.transpose(argsort(axes))` backward; `Tensor_Transpose_Property` uses `a.data.T` forward and `grad.T` backward. -/
def revAxes (n : Nat) : List Nat := (List.range n).reverse

/-- `Tensor_Transpose_Property ≡ Transpose(axes=None)`: the reversed axes send axis `i` to `n-1-i` (that is `.T`), and
    the reversal is its own inverse permutation, so `argsort(axes) = axes` and `grad.transpose(argsort(axes)) = grad.T`. -/
theorem transpose_property_equiv_transpose (n i : Nat) (hi : i < n) :
    (revAxes n)[i]? = some (n - 1 - i) ∧ (revAxes n)[n - 1 - i]? = some i := by
  have key : ∀ j, j < n → (revAxes n)[j]? = some (n - 1 - j) := by
    intro j hj
    unfold revAxes
    rw [List.getElem?_reverse (by simpa using hj)]
    simp only [List.length_range]
    rw [List.getElem?_range (by omega)]
  refine ⟨key i hi, ?_⟩
  rw [key (n - 1 - i) (by omega)]
  congr 1
  omega

/-! ### the table

`groups` lists the routes by (operation, operand classes, form).  Two checks are evaluated on it.  `groups_ok`: within a
group every spelling agrees with the first one, and the keys of the groups increase, so that a key names one group.
`heads_ok`: the first routes of consecutive groups are linked (`link`), which — the link being transitive — compares the
forms of one operation with each other on one representative each. -/

/-- same mathematical operation (incl. option variant), same operand classes, same form -/
def sameOperation (r₁ r₂ : Route) : Prop := r₁.op = r₂.op ∧ r₁.probe = r₂.probe ∧ r₁.form = r₂.form

/-- what the spellings of a group must share; the form is in it because `Route.key` determines it only for bounded fields -/
def full (r : Route) : Nat × List (CallSig × Bool) := (r.form, r.calls.map fun c => (canon c.sig, c.inPlace))

def shapeOf (r : Route) : List (Nat × List Arg) := (r.sigs.map canon).map fun c => (c.target, c.operands)

def famOf (r : Route) : Nat := formFamily.getD r.form 0

/-- the options that are arguments of the computation: all but the markers of where the result is written -/
def coreOf (r : Route) : List (Nat × List Arg × List Nat) :=
  (r.sigs.map canon).map fun c => (c.target, c.operands, c.options.filter fun o => !markerOptions.contains o)

theorem sigs_of_full {r₁ r₂ : Route} (h : full r₁ = full r₂) :
    r₁.sigs.map canon = r₂.sigs.map canon ∧ r₁.flags = r₂.flags := by
  have e : ∀ r, r.sigs.map canon = (full r).2.map Prod.fst ∧ r.flags = (full r).2.map Prod.snd := fun r => by
    simp [full, Route.sigs, Route.flags, List.map_map, Function.comp_def]
  rw [(e r₁).1, (e r₁).2, (e r₂).1, (e r₂).2, h]
  exact ⟨rfl, rfl⟩

theorem coreOf_of_full {r₁ r₂ : Route} (h : full r₁ = full r₂) : coreOf r₁ = coreOf r₂ := by
  unfold coreOf; rw [(sigs_of_full h).1]

theorem famOf_of_full {r₁ r₂ : Route} (h : full r₁ = full r₂) : famOf r₁ = famOf r₂ := by
  unfold famOf; rw [show r₁.form = r₂.form from congrArg Prod.fst h]

theorem shapeOf_of_coreOf {r₁ r₂ : Route} (h : coreOf r₁ = coreOf r₂) : shapeOf r₁ = shapeOf r₂ := by
  have e : ∀ r, shapeOf r = (coreOf r).map fun x => (x.1, x.2.1) := fun r => by
    simp [shapeOf, coreOf, List.map_map, Function.comp_def]
  rw [e, e, h]

theorem groups_ok : tableOK Route.key full groups = true := by decide +kernel

/-- **C11, routes.**  Over the complete recorded table: all spellings of one operation on the same operand classes in the
    same form reach — up to `ProvedEquivalent` — the same `Operation` classes, with the same operand permutation, the same
    normalised options and the same in-place flags. -/
theorem routes_agree :
    ∀ r₁ ∈ routes, ∀ r₂ ∈ routes, sameOperation r₁ r₂ →
      r₁.sigs.map canon = r₂.sigs.map canon ∧ r₁.flags = r₂.flags := by
  intro r₁ h₁ r₂ h₂ hs
  have hk : r₁.key = r₂.key := by unfold Route.key; rw [hs.1, hs.2.1, hs.2.2]
  exact sigs_of_full (tableOK_sound Route.key full groups groups_ok r₁ h₁ r₂ h₂ hk)

/-! #### across forms

`out=` (ndarray or Tensor) and augmented assignment only choose where the result is written: within one family of forms
(no extra keyword / `where=` / `dtype=float32` / `dtype=float16`) every spelling must hand the same keyword arguments to the
`Operation` — e.g. `dtype=` must reach the op whether `out` is `None`, an ndarray or a Tensor.  Across families the classes
and operands must still agree. -/

def link (a b : Route) : Bool :=
  Nat.blt a.opKey b.opKey ||
    (Nat.beq a.opKey b.opKey &&
      if Nat.beq (famOf a) (famOf b) then decide (coreOf a = coreOf b)
      else Nat.blt (famOf a) (famOf b) && decide (shapeOf a = shapeOf b))

def Link (a b : Route) : Prop :=
  a.opKey < b.opKey ∨ (a.opKey = b.opKey ∧ famOf a ≤ famOf b ∧ shapeOf a = shapeOf b ∧
    (famOf a = famOf b → coreOf a = coreOf b))

theorem link_spec (a b : Route) (H : link a b = true) : Link a b := by
  simp only [link, Bool.or_eq_true, Bool.and_eq_true, Nat.blt_eq] at H
  rcases H with H | ⟨h1, h2⟩
  · exact .inl H
  · refine .inr ⟨Nat.eq_of_beq_eq_true h1, ?_⟩
    split at h2
    · rename_i hf
      have hc := of_decide_eq_true h2
      exact ⟨Nat.le_of_eq (Nat.eq_of_beq_eq_true hf), shapeOf_of_coreOf hc, fun _ => hc⟩
    · simp only [Bool.and_eq_true, Nat.blt_eq, decide_eq_true_eq] at h2
      exact ⟨Nat.le_of_lt h2.1, h2.2, fun e => absurd e (Nat.ne_of_lt h2.1)⟩

theorem Link.trans {a b c : Route} (h₁ : Link a b) (h₂ : Link b c) : Link a c := by
  rcases h₁ with h₁ | ⟨k₁, m₁, s₁, c₁⟩
  · exact .inl (h₂.elim (Nat.lt_trans h₁) fun h => Nat.lt_of_lt_of_eq h₁ h.1)
  · rcases h₂ with h₂ | ⟨k₂, m₂, s₂, c₂⟩
    · exact .inl (Nat.lt_of_le_of_lt (Nat.le_of_eq k₁) h₂)
    · refine .inr ⟨k₁.trans k₂, Nat.le_trans m₁ m₂, s₁.trans s₂, fun e => ?_⟩
      -- the family does not decrease, so equal families at the ends are equal to the one between
      have e₁ : famOf a = famOf b := Nat.le_antisymm m₁ (Nat.le_trans m₂ (Nat.le_of_eq e.symm))
      exact (c₁ e₁).trans (c₂ (e₁.symm.trans e))

theorem heads_ok : chain link (groups.filterMap List.head?) = true := by decide +kernel

theorem linked_sound {gs : List (List Route)} (hg : tableOK Route.key full gs = true)
    (hl : chain link (gs.filterMap List.head?) = true) :
    ∀ r₁ ∈ gs.flatten, ∀ r₂ ∈ gs.flatten, r₁.opKey = r₂.opKey →
      shapeOf r₁ = shapeOf r₂ ∧ (famOf r₁ = famOf r₂ → coreOf r₁ = coreOf r₂) := by
  intro r₁ h₁ r₂ h₂ ek
  obtain ⟨g₁, hg₁, h₁⟩ := List.mem_flatten.mp h₁
  obtain ⟨g₂, hg₂, h₂⟩ := List.mem_flatten.mp h₂
  obtain ⟨a, ea, _, m₁⟩ := tableOK_mem hg hg₁
  obtain ⟨b, eb, _, m₂⟩ := tableOK_mem hg hg₂
  obtain ⟨k₁, u₁⟩ := m₁ r₁ h₁
  obtain ⟨k₂, u₂⟩ := m₂ r₂ h₂
  -- a route has the form of the first of its group, hence with its key also its (operation, operand classes)
  have ek' : a.opKey = b.opKey :=
    (opKey_of_key k₁ (congrArg Prod.fst u₁)).symm.trans (ek.trans (opKey_of_key k₂ (congrArg Prod.fst u₂)))
  -- so the statement is one about the first routes, and these are linked pairwise
  rw [shapeOf_of_coreOf (coreOf_of_full u₁), shapeOf_of_coreOf (coreOf_of_full u₂), coreOf_of_full u₁,
    coreOf_of_full u₂, famOf_of_full u₁, famOf_of_full u₂]
  rcases pairwise_trichotomy (pairwise_of_chain link_spec Link.trans hl)
      (List.mem_filterMap.mpr ⟨g₁, hg₁, ea⟩) (List.mem_filterMap.mpr ⟨g₂, hg₂, eb⟩) with rfl | l | l
  · exact ⟨rfl, fun _ => rfl⟩
  · rcases l with l | ⟨_, _, ls, lc⟩
    · exact absurd ek' (Nat.ne_of_lt l)
    · exact ⟨ls, lc⟩
  · rcases l with l | ⟨_, _, ls, lc⟩
    · exact absurd ek'.symm (Nat.ne_of_lt l)
    · exact ⟨ls.symm, fun e => (lc e.symm).symm⟩

/-- **C11, routes across forms.**  Plain, augmented, `out=`, `where=` and `dtype=` spellings of one operation on the same
    operand classes reach the same classes with the same operand permutation (up to `ProvedEquivalent`). -/
theorem routes_same_target :
    ∀ r₁ ∈ routes, ∀ r₂ ∈ routes, r₁.op = r₂.op ∧ r₁.probe = r₂.probe → shapeOf r₁ = shapeOf r₂ := by
  intro r₁ h₁ r₂ h₂ hs
  have hk : r₁.opKey = r₂.opKey := by unfold Route.opKey; rw [hs.1, hs.2]
  exact (linked_sound groups_ok heads_ok r₁ h₁ r₂ h₂ hk).1

/-- **C11, keyword arguments across forms.**  Spellings of one operation on the same operand classes within one family of
    forms reach the same classes with the same operands and the same computation options, wherever the result is written. -/
theorem routes_same_options :
    ∀ r₁ ∈ routes, ∀ r₂ ∈ routes, r₁.op = r₂.op ∧ r₁.probe = r₂.probe ∧ famOf r₁ = famOf r₂ → coreOf r₁ = coreOf r₂ := by
  intro r₁ h₁ r₂ h₂ hs
  have hk : r₁.opKey = r₂.opKey := by unfold Route.opKey; rw [hs.1, hs.2.1]
  exact (linked_sound groups_ok heads_ok r₁ h₁ r₂ h₂ hk).2 hs.2.2

/-- the table is not vacuous: every registered override has a probe, every group compares at least two spellings, and
    there are routes of every kind of spelling -/
theorem table_complete_forms :
    unprobedOverrides = [] ∧ groups.all (fun g => decide (2 ≤ g.length)) = true ∧
    ([Kind.mgFunction, .npFunction, .npUfunc, .ufuncOutTensor, .ufuncOutNdarray, .ufuncWhere, .ufuncDtype, .method,
      .operator, .reflectedOperator, .augmentedOperator].all fun k => routes.any fun r => decide (r.kind = k)) = true := by
  decide +kernel

/-- non-vacuity of `routes_agree`: the table holds two spellings of the same operation that were recorded with different
    calls (such as `x ** 2` and `power(x, 2)`) -/
example : ∃ r₁ ∈ routes, ∃ r₂ ∈ routes, sameOperation r₁ r₂ ∧ r₁.sigs ≠ r₂.sigs := by
  -- an operation in whose first form some spelling was recorded with other calls than the first spelling (the operator
  -- spellings are there; scanning every form of every operation costs four times as much to evaluate)
  have h : (table.any fun t => match t with
      | (a :: l) :: _ => l.any fun r => decide (a.sigs ≠ r.sigs ∧ a.op = r.op ∧ a.probe = r.probe ∧ a.form = r.form)
      | _ => false) = true := by
    decide +kernel
  obtain ⟨t, ht, h⟩ := List.any_eq_true.mp h
  match t, h with
  | (a :: l) :: _, h =>
    obtain ⟨r, hr, h⟩ := List.any_eq_true.mp h
    have h := of_decide_eq_true h
    have hg : a :: l ∈ groups := List.mem_flatten.mpr ⟨_, ht, List.mem_cons_self ..⟩
    exact ⟨a, List.mem_flatten.mpr ⟨_, hg, List.mem_cons_self ..⟩, r,
      List.mem_flatten.mpr ⟨_, hg, List.mem_cons_of_mem _ hr⟩, h.2, h.1⟩

/-- the rounding / modulo family among NumPy's ufuncs (`np.mod` is `np.remainder`) -/
def roundingModuloFamily : List Nat :=
  [Fn.f_floor, Fn.f_ceil, Fn.f_rint, Fn.f_trunc, Fn.f_remainder, Fn.f_fmod, Fn.f_floor_divide, Fn.f_divmod]

/-- every member of the rounding/modulo family is registered const-only, and every const-only ufunc was observed to raise
    on a non-constant tensor and to return NumPy's answer on constant ones -/
theorem const_only_raise :
    (∀ f ∈ roundingModuloFamily, f ∈ constOnly) ∧
    (∀ f ∈ constOnly, f ∈ raisesOnNonConstant ∧ f ∈ worksOnConstant) := by
  decide

/-- every non-differentiable function / boolean ufunc of the registry was observed to return plain arrays (no Tensor),
    equal to NumPy's answer on the underlying arrays -/
theorem no_diff_return_ndarray : ∀ f ∈ noDiff ++ boolOnly, f ∈ returnsNdarray := by
  decide

end MG.C11
