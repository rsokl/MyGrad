import MG.Proofs.Lemmas.LockEv

/-!
# C08 — memory guard: arrays in a live graph are read-only, and restored afterwards

Property theorems only.  Model: `MG/Core/Lock.lean` (M5; tied to `mygrad/_utils/lock_management.py` and
the locking calls of `Tensor._op` by the correspondence check `harness/props/c08.py`, which replays the
events recorded on the implementation).  Helper lemmas: `MG/Proofs/Lemmas/Lock*.lean`.

All theorems are by induction over *all* histories of events (`Reach`): any length, any order of
`newArr` / `opCreated` / `opExtend` / `opFinalized` / `arrayDied`, including arrays that die while an op
still holds them and addresses that are re-used (`newArr` at the address of a dead array).

Three clauses of the property are **false of the code as written** once a history leaves the named
hypotheses; each `…_neg` theorem proves that from a concrete witness, which the harness replays on the
implementation:

* `H_fresh` (no address re-use while a table entry lingers): a view that waits for its base dies, a new
  view gets its address; the old base's release pops the new view's tracker entry (NumPy refuses to make
  it writeable: its own base is still locked) and the view stays read-only for ever;
* `H_flags` (a view's original flag is its owner's): an explicitly read-only view of a writeable owner
  is made writeable when its op is released; a writeable view of an owner that was made read-only
  afterwards waits for a base that is never released.
-/

namespace MG.C08
open MG.Lock

/-- states reachable by histories all of whose events satisfy the hypothesis `H` -/
inductive Reach (H : State → Event → Bool) : State → Prop
  | init : Reach H Lock.init
  | step {s s' : State} {e : Event} : Reach H s → H s e = true → Lock.step s e = some s' → Reach H s'

def Htrue : State → Event → Bool := fun _ _ => true
/-- everything but `H_fresh` -/
def HnoFresh (s : State) (e : Event) : Bool := Hflags s e && Houts s e && Hforce s e
/-- everything but `H_flags` -/
def HnoFlags (s : State) (e : Event) : Bool := Hfresh s e && Houts s e && Hforce s e

theorem Reach.mono {H H' : State → Event → Bool} (h : ∀ s e, H s e = true → H' s e = true) {s : State}
    (hr : Reach H s) : Reach H' s := by
  induction hr with
  | init => exact Reach.init
  | step _ hH hs ih => exact Reach.step ih (h _ _ hH) hs

/-- run a history, checking the hypothesis at every event -/
def runH (H : State → Event → Bool) (s : State) : List Event → Option State
  | [] => some s
  | e :: es => if H s e then (match Lock.step s e with
      | some s' => runH H s' es
      | none => none) else none

theorem reach_of_runH {H : State → Event → Bool} : ∀ (evs : List Event) (s s' : State),
    Reach H s → runH H s evs = some s' → Reach H s'
  | [], s, s', hr, h => by cases h; exact hr
  | e :: es, s, s', hr, h => by
    unfold runH at h
    split at h
    · next hH =>
      split at h
      · next s1 hs => exact reach_of_runH es s1 s' (.step hr hH hs) h
      · cases h
    · cases h

theorem ginv_init : GInv Lock.init := by
  -- no array is alive and every table is empty
  have dead : ∀ {o}, ¬ isAlive Lock.init o = true := by simp [Lock.init, isAlive]
  have notrk : ∀ {i t}, ¬ lookup i Lock.init.tracker = some t := by simp [Lock.init]
  exact ⟨⟨⟨fun _ _ h => (dead h).elim, fun _ _ h => (dead h).elim, fun _ _ h => (notrk h).elim,
    fun _ _ _ h => (notrk h).elim, fun _ _ _ h => by simp [Lock.init] at h, fun _ _ h => (notrk h).elim⟩,
    fun h => (dead h).elim⟩, fun _ hh => by simp [Lock.init, cntH] at hh⟩

theorem step_ginv {s s' : State} {e : Event} (hG : GInv s) (hH : Hall s e = true) (hs : Lock.step s e = some s') :
    GInv s' := by
  simp only [Hall, Bool.and_eq_true] at hH
  obtain ⟨⟨⟨hFresh, hFlags⟩, hOuts⟩, hForce⟩ := hH
  cases e with
  | newArr => exact newArr_ginv hG hs hFresh hFlags
  | opCreated => exact opCreated_ginv hG hs
  | opExtend => exact opExtend_ginv hG hs hOuts hForce
  | opFinalized => exact opFinalized_ginv hG hs
  | arrayDied => exact arrayDied_ginv hG hs

theorem reach_ginv {s : State} (hr : Reach Hall s) : GInv s := by
  induction hr with
  | init => exact ginv_init
  | step _ hH hs ih => exact step_ginv ih hH hs

/-- *while locked*: the counter of every live array is the number of live op-holds on it (0 for natively
read-only arrays, which are never counted), and an array held by a live op — or with a positive
counter — is read-only -/
def GuardProp (s : State) : Prop :=
  ∀ (o : Nat) (a : Arr), s.arrs[o]? = some a → a.alive = true →
    (a.orig = true → cget s.counter a.aid = cntH s.holds o) ∧
    (a.orig = false → cget s.counter a.aid = 0) ∧
    (0 < cntH s.holds o → a.writeable = false) ∧
    (0 < cget s.counter a.aid → a.writeable = false)

/-- *restored afterwards*: an array that entered an op and is no longer held by any live op (nor is its
base) carries its original flag -/
def RestoreProp (s : State) : Prop :=
  ∀ (o : Nat) (a : Arr), s.arrs[o]? = some a → a.alive = true → a.entered = true → cntH s.holds o = 0 →
    (∀ b, a.base = some b → cntH s.holds b = 0) → a.writeable = a.orig

/-- arrays that were read-only beforehand stay read-only -/
def NativeRoProp (s : State) : Prop :=
  ∀ (o : Nat) (a : Arr), s.arrs[o]? = some a → a.alive = true → a.orig = false → a.writeable = false

def guard_inv_statement : Prop := ∀ s, Reach Htrue s → GuardProp s
def restore_at_quiescence_statement : Prop := ∀ s, Reach Htrue s → RestoreProp s
def never_unlocks_native_readonly_statement : Prop := ∀ s, Reach Htrue s → NativeRoProp s

theorem guardProp_of_ginv {s : State} (hG : GInv s) : GuardProp s := by
  intro o a hs ha
  obtain ⟨e1, e2, -, e4, e5, -⟩ := acc_get hs
  have hO := hG.inv.obj (e1.trans ha)
  rw [← e2, ← e4, ← e5]
  cases ho : origOf s o with
  | false =>
    obtain ⟨r1, r2, -⟩ := hO.ro ho
    exact ⟨nofun, fun _ => r2, fun _ => r1, fun _ => r1⟩
  | true =>
    have r1 := hO.rwCnt ho
    exact ⟨fun _ => r1, nofun, fun h => (hO.rwLocked ho (by omega)).2, fun h => (hO.rwLocked ho h).2⟩

theorem restoreProp_of_ginv {s : State} (hG : GInv s) : RestoreProp s := by
  intro o a hs ha hent h0 hb0
  obtain ⟨e1, -, e3, e4, e5, e6⟩ := acc_get hs
  have hal := e1.trans ha
  have hO := hG.inv.obj hal
  rw [← e4, ← e5]
  cases ho : origOf s o with
  | false => exact (hO.ro ho).1
  | true =>
    rcases tracker_cases hG.inv.toTabOK hal with h | h
    · exact hO.rwFree ho h (Or.inl (e6.trans hent))
    · -- a waiting view: its base is still counted, hence held
      obtain ⟨_, b, hb, _, hpos | hF⟩ := hO.rwWait ho h ((hO.rwCnt ho).trans h0)
      · obtain ⟨hba, _, hbo⟩ := hG.inv.baseOk o b hal hb
        rw [(hG.inv.obj hba).rwCnt (hbo.trans ho), hb0 b (e3 ▸ hb)] at hpos
        cases hpos
      · exact hF.elim

theorem nativeRoProp_of_ginv {s : State} (hG : GInv s) : NativeRoProp s := by
  intro o a hs ha ho
  obtain ⟨e1, -, -, e4, e5, -⟩ := acc_get hs
  rw [← e5]
  exact ((hG.inv.obj (e1.trans ha)).ro (e4.trans ho)).1

/-- **guard_inv.**  In every state reachable by a history that satisfies the named hypotheses, for every
live array: `counter = number of live op-holds` and `held ⇒ read-only`. -/
theorem guard_inv_partial (s : State) (hr : Reach Hall s) : GuardProp s :=
  guardProp_of_ginv (reach_ginv hr)

/-- **restore_at_quiescence.**  For every order of finalizations, clears and deaths: once no live op
holds an array (and its base), its flag is the original one. -/
theorem restore_at_quiescence_partial (s : State) (hr : Reach Hall s) : RestoreProp s :=
  restoreProp_of_ginv (reach_ginv hr)

/-- **never_unlocks_native_readonly.**  In every such state an array that was read-only before MyGrad saw it is
read-only. -/
theorem never_unlocks_native_readonly_partial (s : State) (hr : Reach Hall s) : NativeRoProp s :=
  nativeRoProp_of_ginv (reach_ginv hr)

/-- a history that runs under `H` to a state that `p` accepts -/
theorem exists_of_runH {H : State → Event → Bool} {evs : List Event} {p : State → Bool}
    (h : (runH H Lock.init evs).any p = true) : ∃ s, Reach H s ∧ p s = true := by
  cases hr : runH H Lock.init evs with
  | none => rw [hr] at h; cases h
  | some s => rw [hr] at h; exact ⟨s, reach_of_runH evs _ _ Reach.init hr, h⟩

/-- a property of all reachable states is refuted by one history and a Boolean test that excludes it -/
theorem not_of_witness {H : State → Event → Bool} {Q : State → Prop} (p : State → Bool)
    (hp : ∀ s, p s = true → ¬ Q s) {evs : List Event} (h : (runH H Lock.init evs).any p = true) :
    ¬ ∀ s, Reach H s → Q s :=
  fun hall => let ⟨s, hr, hs⟩ := exists_of_runH h; hp s hs (hall s hr)

/-- array `o` violates `RestoreProp` -/
def restoreViolated (o : Nat) (s : State) : Bool :=
  (s.arrs[o]?).any fun a => a.alive && a.entered && cntH s.holds o == 0 &&
    (match a.base with
     | none => true
     | some b => cntH s.holds b == 0) && (a.writeable != a.orig)

def nativeRoViolated (o : Nat) (s : State) : Bool :=
  (s.arrs[o]?).any fun a => a.alive && !a.orig && a.writeable

def counterViolated (o : Nat) (s : State) : Bool :=
  (s.arrs[o]?).any fun a => a.alive && a.orig && (cget s.counter a.aid != cntH s.holds o)

theorem not_restore {o : Nat} {s : State} (h : restoreViolated o s = true) : ¬ RestoreProp s := by
  intro hP
  obtain ⟨a, hs, h⟩ := (Option.any_eq_true _ _).mp h
  simp only [Bool.and_eq_true, beq_iff_eq, bne_iff_ne, ne_eq] at h
  obtain ⟨⟨⟨⟨ha, he⟩, h0⟩, hb⟩, hne⟩ := h
  refine hne (hP o a hs ha he h0 fun b hbb => ?_)
  rw [hbb] at hb
  exact beq_iff_eq.mp hb

theorem not_nativeRo {o : Nat} {s : State} (h : nativeRoViolated o s = true) : ¬ NativeRoProp s := by
  intro hP
  obtain ⟨a, hs, h⟩ := (Option.any_eq_true _ _).mp h
  simp only [Bool.and_eq_true, Bool.not_eq_eq_eq_not, Bool.not_true] at h
  obtain ⟨⟨ha, ho⟩, hw⟩ := h
  rw [hP o a hs ha ho] at hw; cases hw

theorem not_guard {o : Nat} {s : State} (h : counterViolated o s = true) : ¬ GuardProp s := by
  intro hP
  obtain ⟨a, hs, h⟩ := (Option.any_eq_true _ _).mp h
  simp only [Bool.and_eq_true, bne_iff_ne, ne_eq] at h
  obtain ⟨⟨ha, ho⟩, hne⟩ := h
  exact hne ((hP o a hs ha).1 ho)

/-- Witness **B** (address re-use).  `o0`,`o2` owners, `o1` a view of `o0`.  An op on `o0`, an op on `o1`;
the second is finalized (`o1` waits for `o0`), `o1` dies; a new view `o3` of `o2` is born at `o1`'s address;
ops on `o2` and on `o3`; the op on `o3` is finalized (`o3` waits for `o2`); the op on `o0` is finalized: the
loop pops `o3`'s tracker entry and NumPy refuses to unlock it; finally the op on `o2` is finalized. -/
def witnessB : List Event :=
  [.newArr 10 none true true, .newArr 11 (some 0) true true, .newArr 12 none true true,
   .opCreated [0], .opCreated [1], .opFinalized 1, .arrayDied 1,
   .newArr 11 (some 2) true true, .opCreated [2], .opCreated [3],
   .opFinalized 2, .opFinalized 0, .opFinalized 0]

/-- Witness **D3**: an owner made read-only after a (writeable) view of it was taken; the view enters an op. -/
def witnessD3 : List Event :=
  [.newArr 10 none false false, .newArr 11 (some 0) true true, .opCreated [1], .opFinalized 0]

/-- Witness **D1**: an explicitly read-only view of a writeable owner enters an op. -/
def witnessD1 : List Event :=
  [.newArr 10 none true true, .newArr 11 (some 0) false false, .opCreated [1], .opFinalized 0]

/-- Witness **R**: an array dies while an op holds it (its counter entry lingers); a natively read-only
array is born at its address, enters an op, and the op is finalized. -/
def witnessR : List Event :=
  [.newArr 10 none true true, .opCreated [0], .arrayDied 0, .newArr 10 none false false,
   .opCreated [1], .opFinalized 1]

/-- Witness **L**: the lingering counter entry itself. -/
def witnessL : List Event :=
  [.newArr 10 none true true, .opCreated [0], .arrayDied 0, .newArr 10 none true true]

/-- restoration fails with address re-use, even when every other hypothesis holds -/
theorem restore_needs_fresh_neg : ¬ ∀ s, Reach HnoFresh s → RestoreProp s :=
  not_of_witness (restoreViolated 3) (fun _ => not_restore) (evs := witnessB) (by decide)

/-- restoration fails for a writeable view of an owner made read-only afterwards (no address re-use) -/
theorem restore_needs_flags_neg : ¬ ∀ s, Reach HnoFlags s → RestoreProp s :=
  not_of_witness (restoreViolated 1) (fun _ => not_restore) (evs := witnessD3) (by decide)

theorem restore_at_quiescence_neg : ¬ restore_at_quiescence_statement := fun h =>
  restore_needs_fresh_neg (fun s hr => h s (hr.mono (fun _ _ _ => rfl)))

/-- a read-only view of a writeable owner is made writeable (no address re-use) -/
theorem never_unlocks_needs_flags_neg : ¬ ∀ s, Reach HnoFlags s → NativeRoProp s :=
  not_of_witness (nativeRoViolated 1) (fun _ => not_nativeRo) (evs := witnessD1) (by decide)

/-- a natively read-only *owner* is made writeable when it is born at an address with a lingering counter -/
theorem never_unlocks_needs_fresh_neg : ¬ ∀ s, Reach HnoFresh s → NativeRoProp s :=
  not_of_witness (nativeRoViolated 1) (fun _ => not_nativeRo) (evs := witnessR) (by decide)

theorem never_unlocks_native_readonly_neg : ¬ never_unlocks_native_readonly_statement := fun h =>
  never_unlocks_needs_flags_neg (fun s hr => h s (hr.mono (fun _ _ _ => rfl)))

theorem guard_inv_needs_fresh_neg : ¬ ∀ s, Reach HnoFresh s → GuardProp s :=
  not_of_witness (counterViolated 1) (fun _ => not_guard) (evs := witnessL) (by decide)

theorem guard_inv_neg : ¬ guard_inv_statement := fun h =>
  guard_inv_needs_fresh_neg (fun s hr => h s (hr.mono (fun _ _ _ => rfl)))

/-- a view `o1`, its base `o0`, two overlapping ops (`k0` on the view — which also locks the base —
with output `o2`, `k1` on the base), the first one finalized while the second is live -/
def sample : List Event :=
  [.newArr 1 none true true, .newArr 2 (some 0) true true, .opCreated [1], .newArr 3 none true true,
   .opExtend 0 [2] none, .opCreated [0], .opFinalized 0]

def enteredOf' (s : State) (o : Nat) : Bool := (s.arrs[o]?).any (·.entered)

def sampleCheck (evs : List Event) (p : State → Bool) : Bool :=
  match runH Hall Lock.init evs with
  | some s => p s
  | none => false

/-- the history satisfies every hypothesis; afterwards the base is held once and read-only, the view
is held by nobody, still read-only (it waits for its base), and the output is writeable again -/
example : sampleCheck sample (fun s =>
    cntH s.holds 0 == 1 && cntH s.holds 1 == 0 && !wOf s 0 && !wOf s 1 && wOf s 2 &&
    cget s.counter 1 == 1 && wget s.waiting 1 == [2]) = true := by decide

/-- … and once the second op is finalized too, everything is restored and the tables are empty -/
example : sampleCheck (sample ++ [.opFinalized 0]) (fun s =>
    s.holds.isEmpty && wOf s 0 && wOf s 1 && wOf s 2 && s.counter.isEmpty && s.tracker.isEmpty &&
    s.waiting.isEmpty) = true := by decide

theorem exists_of_sampleCheck {evs : List Event} {p : State → Bool} (h : sampleCheck evs p = true) :
    ∃ s, Reach Hall s ∧ p s = true := by
  unfold sampleCheck at h
  exact exists_of_runH (by cases hr : runH Hall Lock.init evs <;> rw [hr] at h <;> exact h)

/-- the hypotheses of the `_partial` theorems are met by that non-trivial reachable state: one live
hold on the base, the view waiting -/
example : ∃ s, Reach Hall s ∧ (cntH s.holds 0 == 1 && !wOf s 1 && enteredOf' s 1) = true :=
  exists_of_sampleCheck (evs := sample) (by decide)

end MG.C08
