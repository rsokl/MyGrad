import MG.Gen.ScalarOps
import MG.Proofs.Lemmas.NumpyRealDeriv

/-!
# C02 (scalar stratum) — abs, sqrt, cbrt, maximum, minimum

Definitions generated from `/repo/src/mygrad/math/misc/ops.py`.  Piecewise ops get one derivative theorem per smooth
piece and a separate theorem for the documented convention at the kink (`d|x|/dx = 0` at `0`, NaN with
`nan_to_num=False` — modelled as `none`; zero gradient to both operands at ties of `maximum`/`minimum`).
-/

namespace MG.C02
open MG.Gen.Scalar

theorem Abs_vjp0_pos (x : ℝ) (hx : 0 < x) :
    ∃ d, HasDerivAt (fun t => fwd_Abs t) d x ∧ ∀ g, bwd_Abs_0 g x = g * d :=
  ⟨1, (hasDerivAt_id' x).congr_Ioi hx fun _ ht => abs_of_pos ht,
    fun g => by rw [bwd_Abs_0, if_pos hx]⟩

theorem Abs_vjp0_neg (x : ℝ) (hx : x < 0) :
    ∃ d, HasDerivAt (fun t => fwd_Abs t) d x ∧ ∀ g, bwd_Abs_0 g x = g * d :=
  ⟨-1, (hasDerivAt_id' x).neg.congr_Iio hx fun _ ht => abs_of_neg ht,
    fun g => by rw [bwd_Abs_0, if_neg hx.not_gt, if_neg hx.ne, if_pos hx]⟩

/-- documented convention: `d|x|/dx = 0` at `0` (default `nan_to_num=True`) -/
theorem Abs_at_zero (g : ℝ) : dom_bwd_Abs_0 g 0 ∧ bwd_Abs_0 g 0 = 0 := by simp [dom_bwd_Abs_0, bwd_Abs_0]

/-- `nan_to_num=False`: NaN (`none`) exactly at `0`, the derivative elsewhere -/
theorem AbsNoNanToNum_vjp0 (x : ℝ) (hx : x ≠ 0) :
    ∃ d, HasDerivAt (fun t => fwd_AbsNoNanToNum t) d x ∧ ∀ g, bwd_AbsNoNanToNum_0 g x = some (g * d) := by
  rcases hx.lt_or_gt with hn | hp
  · exact ⟨-1, (hasDerivAt_id' x).neg.congr_Iio hn fun _ ht => abs_of_neg ht,
      fun g => by rw [bwd_AbsNoNanToNum_0, if_neg hn.not_gt, if_neg hx, if_pos hn]; rfl⟩
  · exact ⟨1, (hasDerivAt_id' x).congr_Ioi hp fun _ ht => abs_of_pos ht,
      fun g => by rw [bwd_AbsNoNanToNum_0, if_pos hp]; rfl⟩

theorem AbsNoNanToNum_at_zero (g : ℝ) : ¬ dom_bwd_AbsNoNanToNum_0 g 0 ∧ bwd_AbsNoNanToNum_0 g 0 = none := by
  simp [dom_bwd_AbsNoNanToNum_0, bwd_AbsNoNanToNum_0, MG.NP.o2]

theorem Sqrt_vjp0 (x : ℝ) (hx : 0 < x) :
    ∃ d, HasDerivAt (fun t => fwd_Sqrt t) d x ∧ ∀ g, bwd_Sqrt_0 g x = g * d :=
  ⟨_, Real.hasDerivAt_sqrt hx.ne', fun g => by unfold bwd_Sqrt_0; ring⟩

example : ∃ d, HasDerivAt (fun t => fwd_Sqrt t) d 4 ∧ ∀ g, bwd_Sqrt_0 g 4 = g * d := Sqrt_vjp0 4 (by norm_num)

theorem Cbrt_vjp0 (x : ℝ) (hx : x ≠ 0) :
    ∃ d, HasDerivAt (fun t => fwd_Cbrt t) d x ∧ ∀ g, bwd_Cbrt_0 g x = g * d :=
  ⟨_, MG.NP.hasDerivAt_cbrt hx, fun g => by unfold bwd_Cbrt_0; ring⟩

theorem Maximum_vjp0_gt (x y : ℝ) (h : y < x) :
    ∃ d, HasDerivAt (fun t => fwd_Maximum t y) d x ∧ ∀ g, bwd_Maximum_0 g x y = g * d :=
  ⟨1, (hasDerivAt_id' x).congr_Ioi h fun _ ht => max_eq_left ht.le,
    fun g => by rw [bwd_Maximum_0, if_pos h, mul_comm]⟩

theorem Maximum_vjp0_lt (x y : ℝ) (h : x < y) :
    ∃ d, HasDerivAt (fun t => fwd_Maximum t y) d x ∧ ∀ g, bwd_Maximum_0 g x y = g * d :=
  ⟨0, (hasDerivAt_const x y).congr_Iio h fun _ ht => max_eq_right ht.le,
    fun g => by rw [bwd_Maximum_0, if_neg h.not_gt, mul_comm]⟩

theorem Maximum_vjp1_gt (x y : ℝ) (h : y < x) :
    ∃ d, HasDerivAt (fun t => fwd_Maximum x t) d y ∧ ∀ g, bwd_Maximum_1 g x y = g * d :=
  ⟨0, (hasDerivAt_const y x).congr_Iio h fun _ ht => max_eq_left ht.le,
    fun g => by simp [bwd_Maximum_1, h, h.ne']⟩

theorem Maximum_vjp1_lt (x y : ℝ) (h : x < y) :
    ∃ d, HasDerivAt (fun t => fwd_Maximum x t) d y ∧ ∀ g, bwd_Maximum_1 g x y = g * d :=
  ⟨1, (hasDerivAt_id' y).congr_Ioi h fun _ ht => max_eq_right ht.le,
    fun g => by simp [bwd_Maximum_1, h.not_gt, h.ne]⟩

/-- documented convention: at a tie neither operand receives gradient -/
theorem Maximum_tie (g x y : ℝ) (h : x = y) :
    (dom_bwd_Maximum_0 g x y ∧ bwd_Maximum_0 g x y = 0) ∧ (dom_bwd_Maximum_1 g x y ∧ bwd_Maximum_1 g x y = 0) := by
  subst h; simp [dom_bwd_Maximum_0, dom_bwd_Maximum_1, bwd_Maximum_0, bwd_Maximum_1]

theorem Minimum_vjp0_gt (x y : ℝ) (h : y < x) :
    ∃ d, HasDerivAt (fun t => fwd_Minimum t y) d x ∧ ∀ g, bwd_Minimum_0 g x y = g * d :=
  ⟨0, (hasDerivAt_const x y).congr_Ioi h fun _ ht => min_eq_right ht.le,
    fun g => by rw [bwd_Minimum_0, if_neg h.not_gt, mul_comm]⟩

theorem Minimum_vjp0_lt (x y : ℝ) (h : x < y) :
    ∃ d, HasDerivAt (fun t => fwd_Minimum t y) d x ∧ ∀ g, bwd_Minimum_0 g x y = g * d :=
  ⟨1, (hasDerivAt_id' x).congr_Iio h fun _ ht => min_eq_left ht.le,
    fun g => by rw [bwd_Minimum_0, if_pos h, mul_comm]⟩

theorem Minimum_vjp1_gt (x y : ℝ) (h : y < x) :
    ∃ d, HasDerivAt (fun t => fwd_Minimum x t) d y ∧ ∀ g, bwd_Minimum_1 g x y = g * d :=
  ⟨1, (hasDerivAt_id' y).congr_Iio h fun _ ht => min_eq_right ht.le,
    fun g => by simp [bwd_Minimum_1, h.not_gt, h.ne']⟩

theorem Minimum_vjp1_lt (x y : ℝ) (h : x < y) :
    ∃ d, HasDerivAt (fun t => fwd_Minimum x t) d y ∧ ∀ g, bwd_Minimum_1 g x y = g * d :=
  ⟨0, (hasDerivAt_const y x).congr_Ioi h fun _ ht => min_eq_left ht.le,
    fun g => by simp [bwd_Minimum_1, h, h.ne]⟩

theorem Minimum_tie (g x y : ℝ) (h : x = y) :
    (dom_bwd_Minimum_0 g x y ∧ bwd_Minimum_0 g x y = 0) ∧ (dom_bwd_Minimum_1 g x y ∧ bwd_Minimum_1 g x y = 0) := by
  subst h; simp [dom_bwd_Minimum_0, dom_bwd_Minimum_1, bwd_Minimum_0, bwd_Minimum_1]

example : bwd_Maximum_0 5 2 2 = 0 ∧ bwd_Maximum_1 5 2 2 = 0 :=
  ⟨(Maximum_tie 5 2 2 rfl).1.2, (Maximum_tie 5 2 2 rfl).2.2⟩

end MG.C02
