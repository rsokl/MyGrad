import MG.Gen.ScalarOps
import MG.Proofs.Lemmas.NumpyRealDeriv

/-!
# C02 (scalar stratum) — trigonometric ops

Definitions generated from `/repo/src/mygrad/math/trigonometric/ops.py`.  `Csc`, `Sec`, `Cot`, `Sinc` are not ufuncs:
their forward pass is traced from `__call__`, too.
-/

namespace MG.C02
open MG.Gen.Scalar

theorem Sin_vjp0 (x : ℝ) : ∃ d, HasDerivAt (fun t => fwd_Sin t) d x ∧ ∀ g, bwd_Sin_0 g x = g * d :=
  ⟨_, Real.hasDerivAt_sin x, fun g => by unfold bwd_Sin_0; ring⟩

theorem Cos_vjp0 (x : ℝ) : ∃ d, HasDerivAt (fun t => fwd_Cos t) d x ∧ ∀ g, bwd_Cos_0 g x = g * d :=
  ⟨_, Real.hasDerivAt_cos x, fun g => by unfold bwd_Cos_0; ring⟩

example : bwd_Cos_0 1 (Real.pi / 2) = -1 := by simp [bwd_Cos_0]

theorem Tan_vjp0 (x : ℝ) (h : Real.cos x ≠ 0) :
    ∃ d, HasDerivAt (fun t => fwd_Tan t) d x ∧ ∀ g, bwd_Tan_0 g x = g * d :=
  ⟨_, Real.hasDerivAt_tan h, fun g => by unfold bwd_Tan_0; ring⟩

theorem Csc_vjp0 (x : ℝ) (h : Real.sin x ≠ 0) :
    ∃ d, HasDerivAt (fun t => fwd_Csc t) d x ∧ ∀ g, bwd_Csc_0 g x = g * d :=
  ⟨_, (hasDerivAt_const x (1 : ℝ)).fun_div (Real.hasDerivAt_sin x) h, fun g => by unfold bwd_Csc_0; ring⟩

theorem Sec_vjp0 (x : ℝ) (h : Real.cos x ≠ 0) :
    ∃ d, HasDerivAt (fun t => fwd_Sec t) d x ∧ ∀ g, bwd_Sec_0 g x = g * d :=
  ⟨_, (hasDerivAt_const x (1 : ℝ)).fun_div (Real.hasDerivAt_cos x) h, fun g => by unfold bwd_Sec_0; ring⟩

/-- `1 / tan t = cos t / sin t` for every real `t` (also where `cos t = 0`, both sides being `0`), so only
`sin x ≠ 0` is needed. -/
theorem Cot_vjp0 (x : ℝ) (h : Real.sin x ≠ 0) :
    ∃ d, HasDerivAt (fun t => fwd_Cot t) d x ∧ ∀ g, bwd_Cot_0 g x = g * d := by
  have hf : (fun t => fwd_Cot t) = fun t => Real.cos t / Real.sin t :=
    funext fun t => by rw [fwd_Cot, Real.tan_eq_sin_div_cos, one_div_div]
  rw [hf]
  refine ⟨_, (Real.hasDerivAt_cos x).fun_div (Real.hasDerivAt_sin x) h, fun g => ?_⟩
  unfold bwd_Cot_0
  linear_combination (g / Real.sin x ^ 2) * Real.sin_sq_add_cos_sq x

/-- `sinc` away from `0`; the code switches to the value `0` for `|x| ≤ 1e-162` (`np.isclose(x, 0, atol=1e-162)`),
which is a floating-point guard: over ℝ the formula is the derivative exactly where the guard is off. -/
theorem Sinc_vjp0 (x : ℝ) (hx : (1e-162 : ℝ) < |x|) :
    ∃ d, HasDerivAt (fun t => fwd_Sinc t) d x ∧ ∀ g, bwd_Sinc_0 g x = g * d := by
  have hx0 : x ≠ 0 := abs_pos.mp ((by norm_num : (0 : ℝ) < 1e-162).trans hx)
  refine ⟨_, MG.NP.hasDerivAt_sinc hx0, fun g => ?_⟩
  have hc : ¬ (|x - 0| ≤ (1e-162 : ℝ) + (1e-05 : ℝ) * |(0 : ℝ)|) := by
    rwa [sub_zero, abs_zero, mul_zero, add_zero, not_le]
  rw [bwd_Sinc_0, if_pos hc]
  ring_nf

/-- at `0` the guard is on and the code returns `0` — which is the true derivative of `sinc` at `0`: the VJP
statement holds there too, and the discarded branch's `0 / 0` is never selected (`dom_bwd_Sinc_0`). -/
theorem Sinc_at_zero :
    ∃ d, HasDerivAt (fun t => fwd_Sinc t) d 0 ∧ ∀ g, dom_bwd_Sinc_0 g 0 ∧ bwd_Sinc_0 g 0 = g * d := by
  have h : (0 : ℝ) ≤ 1e-162 := by norm_num
  exact ⟨0, MG.NP.hasDerivAt_sinc_zero, fun g => by simp [dom_bwd_Sinc_0, bwd_Sinc_0, h]⟩

end MG.C02
