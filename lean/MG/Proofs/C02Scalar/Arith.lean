import MG.Gen.ScalarOps
import MG.Proofs.Lemmas.NumpyRealDeriv

/-!
# C02 (scalar stratum) — arithmetic ops: `backward_var` is the exact VJP of the forward pass

Property theorems only.  The definitions `fwd_*`/`bwd_*` are GENERATED from `/repo/src/mygrad/math/arithmetic/ops.py`
(`MG/Gen/ScalarOps.lean`).  Shape of every theorem: the forward function, as a function of operand `i`, has a
derivative `d` at the point, and the traced backward formula equals `g * d` for every incoming gradient `g`.
Hypotheses are NumPy's domain.  The algebraic side goals are closed by `ring`/`field_simp`, so commuting or
re-associating the Python formula does not break a proof while a sign / factor / wrong-function edit does.
-/

namespace MG.C02
open MG.Gen.Scalar

theorem Add_vjp0 (x y : ℝ) : ∃ d, HasDerivAt (fun t => fwd_Add t y) d x ∧ ∀ g, bwd_Add_0 g x y = g * d :=
  ⟨1, (hasDerivAt_id' x).add_const y, fun g => by unfold bwd_Add_0; ring⟩

theorem Add_vjp1 (x y : ℝ) : ∃ d, HasDerivAt (fun t => fwd_Add x t) d y ∧ ∀ g, bwd_Add_1 g x y = g * d :=
  ⟨1, (hasDerivAt_id' y).const_add x, fun g => by unfold bwd_Add_1; ring⟩

example : bwd_Add_0 3 1 2 = 3 := rfl

theorem Subtract_vjp0 (x y : ℝ) :
    ∃ d, HasDerivAt (fun t => fwd_Subtract t y) d x ∧ ∀ g, bwd_Subtract_0 g x y = g * d :=
  ⟨1, (hasDerivAt_id' x).sub_const y, fun g => by unfold bwd_Subtract_0; ring⟩

theorem Subtract_vjp1 (x y : ℝ) :
    ∃ d, HasDerivAt (fun t => fwd_Subtract x t) d y ∧ ∀ g, bwd_Subtract_1 g x y = g * d :=
  ⟨-1, (hasDerivAt_id' y).const_sub x, fun g => by unfold bwd_Subtract_1; ring⟩

theorem Multiply_vjp0 (x y : ℝ) :
    ∃ d, HasDerivAt (fun t => fwd_Multiply t y) d x ∧ ∀ g, bwd_Multiply_0 g x y = g * d :=
  ⟨y, hasDerivAt_mul_const y, fun g => by unfold bwd_Multiply_0; ring⟩

theorem Multiply_vjp1 (x y : ℝ) :
    ∃ d, HasDerivAt (fun t => fwd_Multiply x t) d y ∧ ∀ g, bwd_Multiply_1 g x y = g * d :=
  ⟨x, hasDerivAt_const_mul x, fun g => by unfold bwd_Multiply_1; ring⟩

theorem Divide_vjp0 (x y : ℝ) :
    ∃ d, HasDerivAt (fun t => fwd_Divide t y) d x ∧ ∀ g, bwd_Divide_0 g x y = g * d :=
  ⟨_, (hasDerivAt_id' x).div_const y, fun g => by unfold bwd_Divide_0; ring⟩

/-- NumPy's domain of `x / y` as a differentiable function of `y`: `y ≠ 0`. -/
theorem Divide_vjp1 (x y : ℝ) (hy : y ≠ 0) :
    ∃ d, HasDerivAt (fun t => fwd_Divide x t) d y ∧ ∀ g, bwd_Divide_1 g x y = g * d :=
  ⟨_, (hasDerivAt_const y x).fun_div (hasDerivAt_id' y) hy, fun g => by unfold bwd_Divide_1; ring⟩

example : ∃ d, HasDerivAt (fun t => fwd_Divide 3 t) d 2 ∧ ∀ g, bwd_Divide_1 g 3 2 = g * d :=
  Divide_vjp1 3 2 (by norm_num)

/-- `x ^ y` in `x`: Mathlib's `rpow` agrees with `np.power` for `0 < x`, for `x = 0 ≤ y` and for `x < 0` with integer
`y` (elsewhere NumPy returns NaN).  The code guards the exponent with `np.where(y, y - 1, 1)`. -/
theorem Power_vjp0 (x y : ℝ) (h : x ≠ 0 ∨ 1 ≤ y) :
    ∃ d, HasDerivAt (fun t => fwd_Power t y) d x ∧ ∀ g, bwd_Power_0 g x y = g * d := by
  refine ⟨_, Real.hasDerivAt_rpow_const h, fun g => ?_⟩
  unfold bwd_Power_0
  rcases eq_or_ne y 0 with rfl | hy
  · rw [if_neg (not_not.mpr rfl), mul_zero, zero_mul, zero_mul, mul_zero]
  · rw [if_pos hy]; ring

/-- `x ^ y` in `y`, for a positive base. -/
theorem Power_vjp1 (x y : ℝ) (hx : 0 < x) :
    ∃ d, HasDerivAt (fun t => fwd_Power x t) d y ∧ ∀ g, bwd_Power_1 g x y = g * d :=
  ⟨_, (Real.hasStrictDerivAt_const_rpow hx y).hasDerivAt,
    fun g => by rw [bwd_Power_1, if_pos hx.ne']; ring⟩

/-- base `0`, positive exponent: `0 ^ t = 0` near `y`; the code's `np.where(x, x, 1)` guard yields `log 1 = 0`. -/
theorem Power_vjp1_at_zero (y : ℝ) (hy : 0 < y) :
    ∃ d, HasDerivAt (fun t => fwd_Power 0 t) d y ∧ ∀ g, dom_bwd_Power_1 g 0 y ∧ bwd_Power_1 g 0 y = g * d :=
  ⟨0, (hasDerivAt_const y (0 : ℝ)).congr_Ioi hy fun _ ht => Real.zero_rpow ht.ne',
    fun g => by simp [dom_bwd_Power_1, bwd_Power_1, hy.le]⟩

theorem Reciprocal_vjp0 (x : ℝ) (hx : x ≠ 0) :
    ∃ d, HasDerivAt (fun t => fwd_Reciprocal t) d x ∧ ∀ g, bwd_Reciprocal_0 g x = g * d :=
  ⟨_, hasDerivAt_inv hx, fun g => by unfold bwd_Reciprocal_0; ring⟩

theorem Square_vjp0 (x : ℝ) : ∃ d, HasDerivAt (fun t => fwd_Square t) d x ∧ ∀ g, bwd_Square_0 g x = g * d :=
  ⟨_, hasDerivAt_pow 2 x, fun g => by unfold bwd_Square_0; push_cast; ring⟩

example : bwd_Square_0 1 3 = 6 := by unfold bwd_Square_0; norm_num

theorem Positive_vjp0 (x : ℝ) :
    ∃ d, HasDerivAt (fun t => fwd_Positive t) d x ∧ ∀ g, bwd_Positive_0 g x = g * d :=
  ⟨1, hasDerivAt_id' x, fun g => by unfold bwd_Positive_0; ring⟩

theorem Negative_vjp0 (x : ℝ) :
    ∃ d, HasDerivAt (fun t => fwd_Negative t) d x ∧ ∀ g, bwd_Negative_0 g x = g * d :=
  ⟨-1, (hasDerivAt_id' x).neg, fun g => by unfold bwd_Negative_0; ring⟩

end MG.C02
