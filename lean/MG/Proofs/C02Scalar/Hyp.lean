import MG.Gen.ScalarOps
import MG.Proofs.Lemmas.NumpyRealDeriv
import Mathlib.Analysis.SpecialFunctions.Trigonometric.DerivHyp

/-!
# C02 (scalar stratum) — hyperbolic ops

Definitions generated from `/repo/src/mygrad/math/hyperbolic_trig/ops.py`.  `Csch`, `Sech`, `Coth` are not ufuncs:
their forward pass is traced from `__call__`.
-/

namespace MG.C02
open MG.Gen.Scalar

theorem Sinh_vjp0 (x : ℝ) : ∃ d, HasDerivAt (fun t => fwd_Sinh t) d x ∧ ∀ g, bwd_Sinh_0 g x = g * d :=
  ⟨_, Real.hasDerivAt_sinh x, fun g => by unfold bwd_Sinh_0; ring⟩

theorem Cosh_vjp0 (x : ℝ) : ∃ d, HasDerivAt (fun t => fwd_Cosh t) d x ∧ ∀ g, bwd_Cosh_0 g x = g * d :=
  ⟨_, Real.hasDerivAt_cosh x, fun g => by unfold bwd_Cosh_0; ring⟩

theorem Tanh_vjp0 (x : ℝ) : ∃ d, HasDerivAt (fun t => fwd_Tanh t) d x ∧ ∀ g, bwd_Tanh_0 g x = g * d :=
  ⟨_, MG.NP.hasDerivAt_tanh x, fun g => by unfold bwd_Tanh_0; ring⟩

example : bwd_Tanh_0 2 0 = 2 := by simp [bwd_Tanh_0]

theorem Csch_vjp0 (x : ℝ) (hx : x ≠ 0) :
    ∃ d, HasDerivAt (fun t => fwd_Csch t) d x ∧ ∀ g, bwd_Csch_0 g x = g * d :=
  ⟨_, (hasDerivAt_const x (1 : ℝ)).fun_div (Real.hasDerivAt_sinh x) (mt Real.sinh_eq_zero.mp hx),
    fun g => by unfold bwd_Csch_0; ring⟩

theorem Sech_vjp0 (x : ℝ) : ∃ d, HasDerivAt (fun t => fwd_Sech t) d x ∧ ∀ g, bwd_Sech_0 g x = g * d :=
  ⟨_, (hasDerivAt_const x (1 : ℝ)).fun_div (Real.hasDerivAt_cosh x) (Real.cosh_pos x).ne',
    fun g => by unfold bwd_Sech_0; ring⟩

theorem Coth_vjp0 (x : ℝ) (hx : x ≠ 0) :
    ∃ d, HasDerivAt (fun t => fwd_Coth t) d x ∧ ∀ g, bwd_Coth_0 g x = g * d := by
  have hf : (fun t => fwd_Coth t) = fun t => Real.cosh t / Real.sinh t :=
    funext fun t => by rw [fwd_Coth, Real.tanh_eq_sinh_div_cosh, one_div_div]
  rw [hf]
  refine ⟨_, (Real.hasDerivAt_cosh x).fun_div (Real.hasDerivAt_sinh x) (mt Real.sinh_eq_zero.mp hx),
    fun g => ?_⟩
  unfold bwd_Coth_0
  linear_combination (g / Real.sinh x ^ 2) * Real.cosh_sq x

end MG.C02
