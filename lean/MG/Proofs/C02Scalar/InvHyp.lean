import MG.Gen.ScalarOps
import MG.Proofs.Lemmas.NumpyRealDeriv

/-!
# C02 (scalar stratum) — inverse hyperbolic ops

Definitions generated from `/repo/src/mygrad/math/hyperbolic_trig/ops.py`.  `Arccsch` (`arcsinh (1/x)`) and `Arccoth`
(`arctanh (1/x)`) are not ufuncs: their forward pass is traced from `__call__`.
-/

namespace MG.C02
open MG.Gen.Scalar

theorem Arcsinh_vjp0 (x : ℝ) :
    ∃ d, HasDerivAt (fun t => fwd_Arcsinh t) d x ∧ ∀ g, bwd_Arcsinh_0 g x = g * d :=
  ⟨_, Real.hasDerivAt_arsinh x, fun g => by unfold bwd_Arcsinh_0; ring⟩

theorem Arccosh_vjp0 (x : ℝ) (h : 1 < x) :
    ∃ d, HasDerivAt (fun t => fwd_Arccosh t) d x ∧ ∀ g, bwd_Arccosh_0 g x = g * d :=
  ⟨_, Real.hasDerivAt_arcosh (Set.mem_Ioi.mpr h), fun g => by unfold bwd_Arccosh_0; ring⟩

example : ∃ d, HasDerivAt (fun t => fwd_Arccosh t) d 2 ∧ ∀ g, bwd_Arccosh_0 g 2 = g * d :=
  Arccosh_vjp0 2 (by norm_num)

theorem Arctanh_vjp0 (x : ℝ) (h1 : -1 < x) (h2 : x < 1) :
    ∃ d, HasDerivAt (fun t => fwd_Arctanh t) d x ∧ ∀ g, bwd_Arctanh_0 g x = g * d :=
  ⟨_, MG.NP.hasDerivAt_artanh h1 h2, fun g => by unfold bwd_Arctanh_0; ring⟩

theorem Arccsch_vjp0 (x : ℝ) (hx : x ≠ 0) :
    ∃ d, HasDerivAt (fun t => fwd_Arccsch t) d x ∧ ∀ g, bwd_Arccsch_0 g x = g * d :=
  ⟨_, MG.NP.hasDerivAt_arsinh_inv hx, fun g => by unfold bwd_Arccsch_0; ring⟩

theorem Arccoth_vjp0 (x : ℝ) (h : 1 < |x|) :
    ∃ d, HasDerivAt (fun t => fwd_Arccoth t) d x ∧ ∀ g, bwd_Arccoth_0 g x = g * d :=
  ⟨_, MG.NP.hasDerivAt_artanh_inv h, fun g => by unfold bwd_Arccoth_0; ring⟩

end MG.C02
