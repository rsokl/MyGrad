import MG.Gen.ScalarOps
import MG.Proofs.Lemmas.NumpyRealDeriv

/-!
# C02 (scalar stratum) — inverse trigonometric ops

Definitions generated from `/repo/src/mygrad/math/trigonometric/ops.py`.  `Arccsc`, `Arcsec`, `Arccot` are not
ufuncs: their forward pass (`arcsin (1/x)`, `arccos (1/x)`, `arctan (1/x)` with `π/2` at `0`) is traced from
`__call__`.  The conventions at `x = ±1` (gradient `0` instead of NaN, implemented with `np.select`) are separate
theorems about the generated backward formula.
-/

namespace MG.C02
open MG.Gen.Scalar

theorem Arcsin_vjp0 (x : ℝ) (h1 : -1 < x) (h2 : x < 1) :
    ∃ d, HasDerivAt (fun t => fwd_Arcsin t) d x ∧ ∀ g, bwd_Arcsin_0 g x = g * d :=
  ⟨_, Real.hasDerivAt_arcsin h1.ne' h2.ne,
    fun g => by rw [bwd_Arcsin_0, if_pos (abs_lt.mpr ⟨h1, h2⟩).ne]; ring⟩

example : ∃ d, HasDerivAt (fun t => fwd_Arcsin t) d (1 / 2) ∧ ∀ g, bwd_Arcsin_0 g (1 / 2) = g * d :=
  Arcsin_vjp0 _ (by norm_num) (by norm_num)

/-- documented convention: `0`, not NaN, at `x = ±1`: the value is `0` *and* no primitive is evaluated outside its
domain in the selected branch (`dom_bwd_*`; without the guard `g / √0` would be `inf` in NumPy but `0` in Lean) -/
theorem Arcsin_at_one (g x : ℝ) (h : x = 1 ∨ x = -1) : dom_bwd_Arcsin_0 g x ∧ bwd_Arcsin_0 g x = 0 := by
  rcases h with rfl | rfl <;> simp [dom_bwd_Arcsin_0, bwd_Arcsin_0]

theorem Arccos_vjp0 (x : ℝ) (h1 : -1 < x) (h2 : x < 1) :
    ∃ d, HasDerivAt (fun t => fwd_Arccos t) d x ∧ ∀ g, bwd_Arccos_0 g x = g * d :=
  ⟨_, Real.hasDerivAt_arccos h1.ne' h2.ne,
    fun g => by rw [bwd_Arccos_0, if_pos (abs_lt.mpr ⟨h1, h2⟩).ne]; ring⟩

theorem Arccos_at_one (g x : ℝ) (h : x = 1 ∨ x = -1) : dom_bwd_Arccos_0 g x ∧ bwd_Arccos_0 g x = 0 := by
  rcases h with rfl | rfl <;> simp [dom_bwd_Arccos_0, bwd_Arccos_0]

theorem Arctan_vjp0 (x : ℝ) : ∃ d, HasDerivAt (fun t => fwd_Arctan t) d x ∧ ∀ g, bwd_Arctan_0 g x = g * d :=
  ⟨_, Real.hasDerivAt_arctan x, fun g => by unfold bwd_Arctan_0; ring⟩

theorem Arccsc_vjp0 (x : ℝ) (h : 1 < |x|) :
    ∃ d, HasDerivAt (fun t => fwd_Arccsc t) d x ∧ ∀ g, bwd_Arccsc_0 g x = g * d :=
  ⟨_, MG.NP.hasDerivAt_arcsin_inv h, fun g => by rw [bwd_Arccsc_0, if_pos h.ne']; ring⟩

theorem Arccsc_at_one (g x : ℝ) (h : x = 1 ∨ x = -1) : dom_bwd_Arccsc_0 g x ∧ bwd_Arccsc_0 g x = 0 := by
  rcases h with rfl | rfl <;> simp [dom_bwd_Arccsc_0, bwd_Arccsc_0]

theorem Arcsec_vjp0 (x : ℝ) (h : 1 < |x|) :
    ∃ d, HasDerivAt (fun t => fwd_Arcsec t) d x ∧ ∀ g, bwd_Arcsec_0 g x = g * d :=
  ⟨_, MG.NP.hasDerivAt_arccos_inv h, fun g => by rw [bwd_Arcsec_0, if_pos h.ne']; ring⟩

theorem Arcsec_at_one (g x : ℝ) (h : x = 1 ∨ x = -1) : dom_bwd_Arcsec_0 g x ∧ bwd_Arcsec_0 g x = 0 := by
  rcases h with rfl | rfl <;> simp [dom_bwd_Arcsec_0, bwd_Arcsec_0]

/-- `arccot` as implemented (`arctan (1/x)`, `π/2` at `0`) jumps at `0`; it is differentiable exactly for `x ≠ 0`. -/
theorem Arccot_vjp0 (x : ℝ) (hx : x ≠ 0) :
    ∃ d, HasDerivAt (fun t => fwd_Arccot t) d x ∧ ∀ g, bwd_Arccot_0 g x = g * d :=
  ⟨_, (MG.NP.hasDerivAt_arctan_inv hx).congr_of_eventuallyEq
      (Filter.eventually_of_mem (isOpen_ne.mem_nhds hx) fun _ ht => if_pos ht),
    fun g => by unfold bwd_Arccot_0; ring⟩

/-- `np.arctan2 x y` in its first argument, on the plane slit along the negative abscissa -/
theorem Arctan2_vjp0 (x y : ℝ) (h : 0 < y ∨ x ≠ 0) :
    ∃ d, HasDerivAt (fun t => fwd_Arctan2 t y) d x ∧ ∀ g, bwd_Arctan2_0 g x y = g * d :=
  ⟨_, MG.NP.hasDerivAt_arctan2_left h, fun g => by unfold bwd_Arctan2_0; ring⟩

theorem Arctan2_vjp1 (x y : ℝ) (h : 0 < y ∨ x ≠ 0) :
    ∃ d, HasDerivAt (fun t => fwd_Arctan2 x t) d y ∧ ∀ g, bwd_Arctan2_1 g x y = g * d :=
  ⟨_, MG.NP.hasDerivAt_arctan2_right h, fun g => by unfold bwd_Arctan2_1; ring⟩

example : ∃ d, HasDerivAt (fun t => fwd_Arctan2 1 t) d (-1) ∧ ∀ g, bwd_Arctan2_1 g 1 (-1) = g * d :=
  Arctan2_vjp1 1 (-1) (Or.inr one_ne_zero)

end MG.C02
