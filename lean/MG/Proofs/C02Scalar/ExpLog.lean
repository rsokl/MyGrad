import MG.Gen.ScalarOps
import MG.Proofs.Lemmas.NumpyRealDeriv

/-!
# C02 (scalar stratum) — exponential and logarithmic ops

Definitions generated from `/repo/src/mygrad/math/exp_log/ops.py`.  `np.exp2 x = 2 ^ x`, `np.expm1 x = exp x - 1`,
`np.log2 x = log x / log 2`, `np.log10 x = log x / log 10`, `np.log1p x = log (1 + x)`,
`np.logaddexp x y = log (exp x + exp y)`, `np.logaddexp2 x y = log (2^x + 2^y) / log 2` (trusted table).
-/

namespace MG.C02
open MG.Gen.Scalar

theorem Exp_vjp0 (x : ℝ) : ∃ d, HasDerivAt (fun t => fwd_Exp t) d x ∧ ∀ g, bwd_Exp_0 g x = g * d :=
  ⟨_, Real.hasDerivAt_exp x, fun g => by unfold bwd_Exp_0; ring⟩

theorem Exp2_vjp0 (x : ℝ) : ∃ d, HasDerivAt (fun t => fwd_Exp2 t) d x ∧ ∀ g, bwd_Exp2_0 g x = g * d :=
  ⟨_, (Real.hasStrictDerivAt_const_rpow two_pos x).hasDerivAt, fun g => by unfold bwd_Exp2_0; ring⟩

theorem Expm1_vjp0 (x : ℝ) : ∃ d, HasDerivAt (fun t => fwd_Expm1 t) d x ∧ ∀ g, bwd_Expm1_0 g x = g * d :=
  ⟨_, (Real.hasDerivAt_exp x).sub_const 1, fun g => by unfold bwd_Expm1_0; ring⟩

theorem Log_vjp0 (x : ℝ) (hx : 0 < x) : ∃ d, HasDerivAt (fun t => fwd_Log t) d x ∧ ∀ g, bwd_Log_0 g x = g * d :=
  ⟨_, Real.hasDerivAt_log hx.ne', fun g => by unfold bwd_Log_0; ring⟩

example : ∃ d, HasDerivAt (fun t => fwd_Log t) d 2 ∧ ∀ g, bwd_Log_0 g 2 = g * d := Log_vjp0 2 (by norm_num)

theorem Log2_vjp0 (x : ℝ) (hx : 0 < x) :
    ∃ d, HasDerivAt (fun t => fwd_Log2 t) d x ∧ ∀ g, bwd_Log2_0 g x = g * d :=
  ⟨_, (Real.hasDerivAt_log hx.ne').div_const _, fun g => by unfold bwd_Log2_0; ring⟩

theorem Log10_vjp0 (x : ℝ) (hx : 0 < x) :
    ∃ d, HasDerivAt (fun t => fwd_Log10 t) d x ∧ ∀ g, bwd_Log10_0 g x = g * d :=
  ⟨_, (Real.hasDerivAt_log hx.ne').div_const _, fun g => by unfold bwd_Log10_0; ring⟩

theorem Log1p_vjp0 (x : ℝ) (hx : -1 < x) :
    ∃ d, HasDerivAt (fun t => fwd_Log1p t) d x ∧ ∀ g, bwd_Log1p_0 g x = g * d :=
  ⟨_, ((hasDerivAt_id' x).const_add 1).log (by linarith), fun g => by unfold bwd_Log1p_0; ring⟩

theorem Logaddexp_vjp0 (x y : ℝ) :
    ∃ d, HasDerivAt (fun t => fwd_Logaddexp t y) d x ∧ ∀ g, bwd_Logaddexp_0 g x y = g * d := by
  refine ⟨_, ((Real.hasDerivAt_exp x).add_const (Real.exp y)).log
    (add_pos (Real.exp_pos x) (Real.exp_pos y)).ne', fun g => ?_⟩
  have hx := Real.exp_ne_zero x
  rw [bwd_Logaddexp_0, Real.exp_sub]
  field_simp

/-- `logaddexp` is symmetric, and `bwd_Logaddexp_1 g x y` is `bwd_Logaddexp_0 g y x` -/
theorem Logaddexp_vjp1 (x y : ℝ) :
    ∃ d, HasDerivAt (fun t => fwd_Logaddexp x t) d y ∧ ∀ g, bwd_Logaddexp_1 g x y = g * d := by
  have e : (fun t => fwd_Logaddexp x t) = fun t => fwd_Logaddexp t x :=
    funext fun t => by rw [fwd_Logaddexp, fwd_Logaddexp, add_comm]
  rw [e]
  exact Logaddexp_vjp0 y x

theorem Logaddexp2_vjp0 (x y : ℝ) :
    ∃ d, HasDerivAt (fun t => fwd_Logaddexp2 t y) d x ∧ ∀ g, bwd_Logaddexp2_0 g x y = g * d := by
  have hx : (0 : ℝ) < (2 : ℝ) ^ x := Real.rpow_pos_of_pos two_pos x
  have hy : (0 : ℝ) < (2 : ℝ) ^ y := Real.rpow_pos_of_pos two_pos y
  have hl : Real.log 2 ≠ 0 := (Real.log_pos one_lt_two).ne'
  refine ⟨_, (((Real.hasStrictDerivAt_const_rpow two_pos x).hasDerivAt.add_const ((2 : ℝ) ^ y)).log
    (add_pos hx hy).ne').div_const _, fun g => ?_⟩
  have := hx.ne'
  rw [bwd_Logaddexp2_0, Real.rpow_sub two_pos]
  field_simp

theorem Logaddexp2_vjp1 (x y : ℝ) :
    ∃ d, HasDerivAt (fun t => fwd_Logaddexp2 x t) d y ∧ ∀ g, bwd_Logaddexp2_1 g x y = g * d := by
  have e : (fun t => fwd_Logaddexp2 x t) = fun t => fwd_Logaddexp2 t x :=
    funext fun t => by rw [fwd_Logaddexp2, fwd_Logaddexp2, add_comm]
  rw [e]
  exact Logaddexp2_vjp0 y x

end MG.C02
