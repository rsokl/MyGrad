import MG.Gen.ScalarOps
import MG.Proofs.Lemmas.NumpyRealDeriv

/-!
# C02 (scalar stratum) — nnet activations that are `Operation`s: sigmoid, relu, elu, selu

Definitions generated from `/repo/src/mygrad/nnet/activations/{sigmoid,relu,elu,selu}.py` (forward passes traced from
`__call__`, including the in-place `out=` updates of `Sigmoid` and the cached `self.exp`/`self.back`).
`leaky_relu`, `hard_tanh`, `soft_sign`, `glu` are compositions of other ops (C01).
At the kink `x = 0` the code uses the right-hand formula for elu/selu and `0` for relu; these are stated as
`*_at_zero` theorems about the generated backward.
-/

namespace MG.C02
open MG.Gen.Scalar

theorem Sigmoid_vjp0 (x : ℝ) :
    ∃ d, HasDerivAt (fun t => fwd_Sigmoid t) d x ∧ ∀ g, bwd_Sigmoid_0 g x = g * d := by
  have hne : Real.exp (-1 * x) + 1 ≠ 0 := (add_pos (Real.exp_pos _) one_pos).ne'
  refine ⟨_, ((((hasDerivAt_id' x).const_mul (-1 : ℝ)).exp).add_const 1).fun_inv hne, fun g => ?_⟩
  unfold bwd_Sigmoid_0
  field_simp
  ring

theorem ReLu_vjp0_pos (x : ℝ) (hx : 0 < x) :
    ∃ d, HasDerivAt (fun t => fwd_ReLu t) d x ∧ ∀ g, bwd_ReLu_0 g x = g * d :=
  ⟨1, (hasDerivAt_id' x).congr_Ioi hx fun t ht => by rw [fwd_ReLu, if_pos ht, mul_one],
    fun g => by rw [bwd_ReLu_0, if_pos hx]⟩

theorem ReLu_vjp0_neg (x : ℝ) (hx : x < 0) :
    ∃ d, HasDerivAt (fun t => fwd_ReLu t) d x ∧ ∀ g, bwd_ReLu_0 g x = g * d :=
  ⟨0, (hasDerivAt_const x (0 : ℝ)).congr_Iio hx fun t ht => by rw [fwd_ReLu, if_neg ht.not_gt, mul_zero],
    fun g => by rw [bwd_ReLu_0, if_neg hx.not_gt]⟩

/-- convention at the kink: no gradient at `0` -/
theorem ReLu_at_zero (g : ℝ) : dom_bwd_ReLu_0 g 0 ∧ bwd_ReLu_0 g 0 = 0 := by simp [dom_bwd_ReLu_0, bwd_ReLu_0]

theorem ELU_vjp0_pos (alpha x : ℝ) (hx : 0 < x) :
    ∃ d, HasDerivAt (fun t => fwd_ELU alpha t) d x ∧ ∀ g, bwd_ELU_0 alpha g x = g * d :=
  ⟨1, (hasDerivAt_id' x).congr_Ioi hx fun t ht => by rw [fwd_ELU, if_neg ht.not_gt],
    fun g => by rw [bwd_ELU_0, if_neg hx.not_gt]⟩

theorem ELU_vjp0_neg (alpha x : ℝ) (hx : x < 0) :
    ∃ d, HasDerivAt (fun t => fwd_ELU alpha t) d x ∧ ∀ g, bwd_ELU_0 alpha g x = g * d :=
  ⟨_, (((Real.hasDerivAt_exp x).sub_const 1).const_mul alpha).congr_Iio hx
      fun t ht => by rw [fwd_ELU, if_pos ht],
    fun g => by rw [bwd_ELU_0, if_pos hx]; ring⟩

/-- at the kink the code takes the right-hand slope `1` (the two-sided derivative exists iff `alpha = 1`) -/
theorem ELU_at_zero (alpha g : ℝ) : dom_bwd_ELU_0 alpha g 0 ∧ bwd_ELU_0 alpha g 0 = g := by
  simp [dom_bwd_ELU_0, bwd_ELU_0]

theorem SELU_vjp0_pos (x : ℝ) (hx : 0 < x) :
    ∃ d, HasDerivAt (fun t => fwd_SELU t) d x ∧ ∀ g, bwd_SELU_0 g x = g * d :=
  ⟨_, ((hasDerivAt_id' x).const_mul _).congr_Ioi hx fun t ht => by rw [fwd_SELU, if_neg ht.not_gt],
    fun g => by rw [bwd_SELU_0, if_neg hx.not_gt, mul_one, mul_one]⟩

theorem SELU_vjp0_neg (x : ℝ) (hx : x < 0) :
    ∃ d, HasDerivAt (fun t => fwd_SELU t) d x ∧ ∀ g, bwd_SELU_0 g x = g * d :=
  ⟨_, ((((Real.hasDerivAt_exp x).sub_const 1).const_mul _).const_mul _).congr_Iio hx
      fun t ht => by rw [fwd_SELU, if_pos ht],
    fun g => by rw [bwd_SELU_0, if_pos hx]; ring⟩

/-- at 0 the traced backward takes the branch `x ≥ 0`: the constant is SELU's scale `_SCALE` of
`nnet/activations/selu.py`, as traced into `bwd_SELU_0` -/
theorem SELU_at_zero (g : ℝ) : dom_bwd_SELU_0 g 0 ∧ bwd_SELU_0 g 0 = g * (1.0507009873554805 : ℝ) := by
  simp [dom_bwd_SELU_0, bwd_SELU_0]

example : ∃ d, HasDerivAt (fun t => fwd_ELU 2 t) d (-1) ∧ ∀ g, bwd_ELU_0 2 g (-1) = g * d :=
  ELU_vjp0_neg 2 (-1) (by norm_num)

end MG.C02
