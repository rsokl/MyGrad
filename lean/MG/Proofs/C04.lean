import MG.Proofs.Lemmas.InPlaceSteps
import MG.IO.EngIO
/-!
# C04 — views and in-place updates mirror NumPy's memory semantics

The reference semantics (buffers, strided windows, basic indexing, transposes, view-or-copy reshape,
broadcasting: `MG/Core/NDIndex.lean`) and MyGrad's machinery on top of it (`MG/Core/Engine.lean`,
`MG/Core/InPlace.lean`) are executable and are compared with NumPy / MyGrad after every statement by
`harness/props/c04.py`.  Proved here, for all heaps and arguments: where a tensor's memory can come
from and what a write can touch.  The refinement theorems for `Tensor._in_place_op` itself stand in
`Lemmas/InPlaceRefine.lean` (a target without live views) and `Lemmas/InPlaceView.lean` (a base with one live view),
the buffer-level facts (`read_write_same`, `write_frames_*`) in `Lemmas/WriteRead.lean`.
-/
namespace MG.C04
open MG.Eng MG.ND

/-- **mirror_keeps_identity.**  `mirror_tensor(target, source)` changes the *state* of the target
object, never which object it is: the public tensor keeps its id, and every other tensor its state. -/
theorem mirror_keeps_identity (h : Heap) (target source : Nat) :
    (mirror h target source).t target = h.t source ∧
    ∀ t, t ≠ target → (mirror h target source).t t = h.t t := by
  refine ⟨by simp [mirror], fun t ht => ?_⟩
  simp only [mirror]
  exact t_setT_ne _ _ _ _ ht

/-- two windows share memory iff they lie in the same buffer and address a common position -/
theorem shares_iff_positions (a b : Arr) :
    sharesMem a b = true ↔ a.buf = b.buf ∧ ∃ p ∈ a.d.positions, p ∈ b.d.positions := by
  simp [sharesMem]

theorem sharesMem_comm (a b : Arr) : sharesMem a b = sharesMem b a := by
  rw [Bool.eq_iff_iff, shares_iff_positions, shares_iff_positions]
  constructor
  · rintro ⟨e, p, h1, h2⟩; exact ⟨e.symm, p, h2, h1⟩
  · rintro ⟨e, p, h1, h2⟩; exact ⟨e.symm, p, h2, h1⟩

/-- **view_is_window_of_parent_buffer.**  When NumPy serves a view op as a view, the result's data
is a window into the *parent's own buffer* (nothing is allocated, no buffer is written): the result
aliases exactly the parent's family. -/
theorem view_is_window_of_parent_buffer (h : Heap) (f : ViewFn) (vars : List Nat) (h' : Heap) (a : Arr)
    (p : Nat) (hok : forwardOp h (.view f) vars = .ok (h', a, some p)) :
    h' = h ∧ p = vars.getD 0 0 ∧ a.buf = (h.t p).data.buf := by
  rcases forwardOp_ok hok with ⟨rfl, ⟨-, hp, ha⟩ | ⟨-, hp⟩⟩ | ⟨hp, -⟩
  · cases hp; exact ⟨rfl, rfl, ha⟩
  · cases hp
  · cases hp

/-- **nonview_result_owns_fresh_memory.**  Every other successful forward pass (non-view ops, and view
ops NumPy has to serve by copying) puts its result into a freshly allocated buffer — one no existing
tensor can share — except `ApplyMask`, which by design hands back its first argument's array. -/
theorem nonview_result_owns_fresh_memory (h : Heap) (k : Kind) (vars : List Nat) (h' : Heap) (a : Arr)
    (hok : forwardOp h k vars = .ok (h', a, none)) (hk : ∀ m, k ≠ .applyMask m) :
    a.buf = h.next ∧ h'.next = h.next + 1 := by
  rcases forwardOp_ok hok with ⟨-, ⟨-, hp, -⟩ | ⟨⟨m, rfl⟩, -⟩⟩ | ⟨-, v, e⟩
  · cases hp
  · exact absurd rfl (hk m)
  · cases e; exact ⟨rfl, rfl⟩

/-- **inplace_write_is_confined.**  The guarded kernel call of an in-place update (`out=` pointing into
the fresh copy of the base) writes that copy only: every buffer that existed before — in particular
the memory the placeholders keep pointing at — is left as it was. -/
theorem inplace_write_is_confined (h : Heap) (kind : Kind) (inputs : List Operand) (constant : Option Bool)
    (wm : Option (Shape × List Bool)) (out : Arr) (h' : Heap) (o : Nat)
    (hok : opStepOut h kind inputs constant wm out = .ok (h', o)) (b : Nat) (hb : b < h.next) (hne : b ≠ out.buf) :
    h'.buf b = h.buf b := by
  -- without an explicit flag the call is the NumPy-level write followed by the recording of the op
  have key : ∀ H r, opStepOut h kind inputs none wm out = .ok (H, r) → H.buf b = h.buf b := by
    intro H r hH
    rw [C04R.opStepOut_eq] at hH
    split at hH
    · cases hH
    · rename_i vals _
      rw [show H = _ from (congrArg Prod.fst (Except.ok.inj hH)).symm]
      refine Eq.trans ?_ ((write_frames_buffer _ out vals b hne).trans ((wrap_ext inputs h).buf b hb))
      simp only [Heap.buf]
      rw [show (C04R.outRes _ kind _ _ out vals wm).1.bufs = _ from (C04R.outCore_spec _ kind _ _ out wm).bufs]
  cases constant with
  | none => exact key h' o hok
  | some c =>
    rw [C10F.opStepOut_const] at hok
    split at hok
    · cases hok
    · rename_i _ H r e
      rw [show h' = _ from (congrArg Prod.fst (Except.ok.inj hok)).symm]
      exact key H r e

/-! ## Non-vacuity: `x[::2]` aliases `x`, `x + x` does not -/
def sampleCheck : Bool :=
  let h : Heap := {}
  let (h, a) := h.newArr ([4], [1, 2, 3, 4])
  let (h, x) := h.fresh
  let h := h.setT x { data := a, const := false }
  match opStep h (.view (.getitem [.slice none none 2])) [.t x], opStep h .add [.t x, .t x] with
  | .ok (h1, v), .ok (h2, s) =>
    sharesMem (h1.t v).data (h1.t x).data && (h1.t v).base == some x &&
    !sharesMem (h2.t s).data (h2.t x).data && (h2.t s).base == none
  | _, _ => false

example : sampleCheck = true := by decide

end MG.C04
