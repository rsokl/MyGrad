import MG.Core.SaveLoad

/-!
# C18 — save/load round-trips a tensor's data, dtype and gradient

Model: `MG/Core/SaveLoad.lean` (tied to `mygrad._io` and the `.grad` / `backward` code of `Tensor` by the
correspondence check `harness/props/c18.py`).

The gradient clause is **false of the code as written** for a tensor whose stored gradient does not
have the tensor's own shape: `load` re-seeds the gradient through `backward(grad)`, which broadcasts or
raises.  Such a tensor is reachable today (the hidden-state sequence returned by `mygrad.nnet.layers.gru`,
defect F5: `.grad.shape == (T,N,D)` for a tensor of shape `(T+1,N,D)`).  Hence
`load_save_roundtrip_statement` (full strength), `load_save_roundtrip_neg` (witness replayed by the
harness on the implementation) and `load_save_roundtrip_partial` under the named hypothesis `H_grad_wf`
(the stored gradient is a float array of the tensor's dtype and shape — the harness evaluates it on every
tensor it generates).
-/

namespace MG.C18
open MG.SaveLoad

/-- `load(save(t))` succeeds and returns equal data (values, shape, dtype) and an equal gradient
    (values, shape, dtype — or `None`). -/
def RoundTrips (t : Tensor) : Prop :=
  ∃ t', load (save t).2 = .ok t' ∧ t'.data = t.data ∧ t'.gradProp = t.gradProp

/-- the gradient `.grad` shows, if any, is a float array with the tensor's dtype and shape -/
def H_grad_wf (t : Tensor) : Prop :=
  ∀ g, t.gradProp = some g → t.data.dtype.isFloat = true ∧ g.dtype = t.data.dtype ∧ g.shape = t.data.shape

/-- the round-trip clause of the property ("`load(save(t))` returns a tensor with equal data … and gradient") at full
strength -/
def load_save_roundtrip_statement : Prop := ∀ t : Tensor, RoundTrips t

theorem save_archive (t : Tensor) : (save t).2 = ⟨t.data, t.gradProp⟩ := rfl

theorem gradProp_mkTensor (a : Arr) : (mkTensor a).gradProp = none := rfl

/-- the getter writes nothing but the cache, and a second read finds the refilled cache `replayed.map (·, s')` a hit for
the same base gradient `s'`, or empty again -/
theorem readGrad_frame_idem (t : Tensor) :
    t.readGrad.1 = { t with viewGrad := t.readGrad.1.viewGrad } ∧ t.readGrad.1.readGrad = t.readGrad := by
  obtain ⟨data, constant, grad_, base, viewGrad, creator, ops, writeable⟩ := t
  cases base with
  | none => exact ⟨rfl, rfl⟩
  | some b =>
    obtain ⟨bg, rp, bc⟩ := b
    cases bc with
    | true => exact ⟨rfl, rfl⟩
    | false =>
    cases constant with
    | true => exact ⟨rfl, rfl⟩
    | false =>
    cases bg with
    | none =>
      cases viewGrad with
      | none => exact ⟨rfl, rfl⟩
      | some c => obtain ⟨g, s⟩ := c; exact ⟨rfl, rfl⟩
    | some s' =>
      cases creator with
      | none =>
        cases viewGrad with
        | none => exact ⟨rfl, rfl⟩
        | some c =>
          obtain ⟨g, s⟩ := c
          by_cases h : s = s' <;> simp [Tensor.readGrad, h]
      | some cr =>
        cases viewGrad with
        | none => cases rp <;> simp [Tensor.readGrad]
        | some c =>
          obtain ⟨g, s⟩ := c
          by_cases h : s = s' <;> cases rp <;> simp [Tensor.readGrad, h]

/-- **C18, "saving does not alter `t`, its gradient or its graph", all tensors.**  Saving leaves the tensor's data, constant flag, stored gradient,
    base link, creator, consumers and array writeability untouched (only the `_view_grad` cache of a view may
    be filled), `.grad` reads the same before and after, and saving again writes the same archive. -/
theorem save_is_frame (t : Tensor) :
    (save t).1 = { t with viewGrad := (save t).1.viewGrad } ∧
    (save t).1.gradProp = t.gradProp ∧
    (save (save t).1).2 = (save t).2 := by
  obtain ⟨hf, hi⟩ := readGrad_frame_idem t
  refine ⟨hf, congrArg Prod.snd hi, ?_⟩
  have hd : t.readGrad.1.data = t.data := by rw [hf]
  show (⟨t.readGrad.1.data, t.readGrad.1.readGrad.2⟩ : Archive) = ⟨t.data, t.readGrad.2⟩
  rw [hd, hi]

/-- the one case in which `save` writes: a view with a live creator whose base has a gradient -/
example :
    let v : Tensor := { data := ⟨[2, 3], [2], .f64⟩, constant := false, grad_ := none,
                        base := some ⟨some 7, some ⟨[4, 6], [2], .f64⟩, false⟩, viewGrad := none,
                        creator := some 1, ops := [5], writeable := false }
    (save v).1.viewGrad = some (⟨[4, 6], [2], .f64⟩, 7) ∧ (save v).1.creator = some 1 ∧
      (save v).1.ops = [5] ∧ (save v).2.grad = some ⟨[4, 6], [2], .f64⟩ := by decide

theorem load_ok_frame {a : Archive} {t' : Tensor} (h : load a = .ok t') :
    t' = { mkTensor a.data with grad_ := t'.grad_ } := by
  obtain ⟨d, g⟩ := a
  cases g with
  | none => cases h; rfl
  | some g =>
    simp only [load, backwardSeed] at h
    split at h
    · cases h; rfl
    · split at h
      · cases h; rfl
      · split at h
        · cases h; rfl
        · cases h

/-- **data / shape / dtype, all tensors**: whenever `load(save(t))` returns, the data array is `t`'s. -/
theorem load_save_data (t t' : Tensor) (h : load (save t).2 = .ok t') : t'.data = t.data := by
  rw [load_ok_frame h]; rfl

/-- **no gradient, all tensors**: a tensor whose `.grad` is `None` loads as a tensor whose `.grad` is `None`. -/
theorem load_save_grad_none (t : Tensor) (h : t.gradProp = none) :
    ∃ t', load (save t).2 = .ok t' ∧ t'.data = t.data ∧ t'.gradProp = none := by
  refine ⟨mkTensor t.data, ?_, rfl, rfl⟩
  rw [save_archive, h]; rfl

/-- **C18, the round-trip clause under `H_grad_wf`.** -/
theorem load_save_roundtrip_partial (t : Tensor) (hw : H_grad_wf t) : RoundTrips t := by
  unfold RoundTrips
  cases hg : t.gradProp with
  | none => exact load_save_grad_none t hg
  | some g =>
    obtain ⟨hf, hd, hs⟩ := hw g hg
    refine ⟨clearGraph { mkTensor t.data with grad_ := some g }, ?_, rfl, rfl⟩
    rw [save_archive, hg]
    simp only [load, backwardSeed, mkTensor, hf, Bool.not_true, Bool.false_eq_true, ↓reduceIte, hs]
    obtain ⟨gv, gs, gd⟩ := g
    simp only at hd hs
    subst hd hs
    rfl

/-- non-vacuity of `load_save_roundtrip_partial`: a float32 view with a view-gradient, in a live graph -/
example :
    let v : Tensor := { data := ⟨[2, 3], [2], .f32⟩, constant := false, grad_ := none,
                        base := some ⟨some 7, some ⟨[4, 6], [2], .f32⟩, false⟩, viewGrad := none,
                        creator := some 1, ops := [5], writeable := false }
    H_grad_wf v ∧ v.gradProp = some ⟨[4, 6], [2], .f32⟩ := by
  intro v
  have hv : v.gradProp = some ⟨[4, 6], [2], .f32⟩ := by decide
  refine ⟨fun g hg => ?_, hv⟩
  obtain rfl := Option.some.inj (hv.symm.trans hg)
  decide

/-- the witness: a tensor of shape `(3,1,2)` whose stored gradient has shape `(2,1,2)` (what
    `gru(...)` returns after `backward`, F5) — `load` raises `ValueError`. -/
def witness : Tensor :=
  { data := ⟨[0, 0, 1, 2, 3, 4], [3, 1, 2], .f64⟩, constant := false,
    grad_ := some ⟨[1, 1, 1, 1], [2, 1, 2], .f64⟩, base := none, viewGrad := none,
    creator := none, ops := [], writeable := true }

theorem witness_load_raises : load (save witness).2 = .error .valueError := by rfl

/-- a second way out of `H_grad_wf`: shape `(2,1,2)` with a stored gradient of shape `(1,1,2)` — `load`
    *succeeds* and silently broadcasts the gradient to a different shape. -/
def witness2 : Tensor :=
  { data := ⟨[0, 0, 1, 2], [2, 1, 2], .f64⟩, constant := false,
    grad_ := some ⟨[5, 7], [1, 1, 2], .f64⟩, base := none, viewGrad := none,
    creator := none, ops := [], writeable := true }

theorem witness2_load_broadcasts :
    (load (save witness2).2).toOption.bind (·.gradProp) = some ⟨[5, 7, 5, 7], [2, 1, 2], .f64⟩ := by decide

/-- **The full statement is false of the code as written** (witness: `witness`). -/
theorem load_save_roundtrip_neg : ¬ load_save_roundtrip_statement := by
  intro h
  obtain ⟨t', h1, _, _⟩ := h witness
  rw [witness_load_raises] at h1
  cases h1

/-- an integer tensor is constant, so `backward(grad)` stores nothing: a `grad` entry in the archive is dropped -/
theorem load_int_drops_grad (a g : Arr) (h : a.dtype.isFloat = false) :
    load ⟨a, some g⟩ = .ok (mkTensor a) := by
  simp [load, backwardSeed, mkTensor, h, clearGraph]

/-- the loaded tensor's constant flag is the dtype default, whatever `t.constant` was -/
theorem load_constant_default (t t' : Tensor) (h : load (save t).2 = .ok t') :
    t'.constant = !t.data.dtype.isFloat := by
  rw [load_ok_frame h]; rfl

end MG.C18
