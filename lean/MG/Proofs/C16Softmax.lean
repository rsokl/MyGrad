import Mathlib.Algebra.BigOperators.Field
import Mathlib.Analysis.SpecialFunctions.Log.Basic

/-!
# C16 — softmax / logsoftmax over `ℝ`: the stabilised form is the documented formula

The real-analysis part of C16 (the window, convolution and pooling theorems are in `MG/Proofs/C16.lean`).
-/

namespace MG.C16

open Real in
/-- **softmax_shift.**  `_softmax` computes `exp(x - max x) / Σ exp(x - max x)`; for *any* shift `m` this is
the documented `exp(x) / Σ exp(x)`. -/
theorem softmax_shift {ι : Type} [Fintype ι] (x : ι → ℝ) (m : ℝ) (i : ι) :
    exp (x i - m) / ∑ j, exp (x j - m) = exp (x i) / ∑ j, exp (x j) := by
  have h : ∀ j, exp (x j - m) = exp (x j) / exp m := fun j => exp_sub _ _
  simp only [h, ← Finset.sum_div]
  exact div_div_div_cancel_right₀ (exp_pos m).ne' _ _

open Real in
/-- **logsoftmax_shift.**  `LogSoftmax` computes `x - (log Σ exp(x - m) + m)` (`logsumexp` with `m = max x`);
this is the documented `log (exp(x) / Σ exp(x))`. -/
theorem logsoftmax_shift {ι : Type} [Fintype ι] (x : ι → ℝ) (m : ℝ) (i : ι) :
    x i - (log (∑ j, exp (x j - m)) + m) = log (exp (x i) / ∑ j, exp (x j)) := by
  have h : ∀ j, exp (x j - m) = exp (x j) / exp m := fun j => exp_sub _ _
  have hS : 0 < ∑ j, exp (x j) :=
    Finset.sum_pos (fun j _ => exp_pos _) ⟨i, Finset.mem_univ i⟩
  simp only [h, ← Finset.sum_div]
  rw [log_div hS.ne' (exp_pos m).ne', log_div (exp_pos _).ne' hS.ne', log_exp, log_exp]
  ring

open Real in
/-- softmax sums to one (the normalisation the losses rely on) -/
theorem softmax_sum_one {ι : Type} [Fintype ι] [Nonempty ι] (x : ι → ℝ) :
    ∑ i, exp (x i) / ∑ j, exp (x j) = 1 := by
  have hS : 0 < ∑ j, exp (x j) :=
    Finset.sum_pos (fun j _ => exp_pos _) Finset.univ_nonempty
  rw [← Finset.sum_div]
  exact div_self hS.ne'

example : (∑ j : Fin 3, Real.exp ((fun _ => (2 : ℝ)) j - 2)) = 3 := by simp

end MG.C16
