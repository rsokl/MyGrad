import MG.Proofs.Lemmas.Nnet

/-!
# C16 — nnet layers equal their documented equations for every valid configuration

Property theorems only.  Model: `MG/Core/Nnet.lean` (tied to `mygrad/nnet/layers/{utils,conv,pooling}.py` by
the correspondence check `harness/props/c16.py`); helper lemmas: `MG/Proofs/Lemmas/Nnet.lean`.
The softmax / logsoftmax identities over `ℝ` are in `MG/Proofs/C16Softmax.lean`; this file is core Lean only.

All theorems quantify over *every* number of batch axes, every number of windowed axes and every size,
window, step, dilation, padding (unbounded `Int`s), and every memory content.

One full-strength statement is **false of the code as it is** and is kept as `def …_statement` with a
proved negation and a proved `_partial` under a named hypothesis:

* `conv_accepts_iff_tiles_statement` — `conv_nd` rejects valid dilated configurations because
  `sliding_window_view` demands `w*d ≤ x` where `(w-1)*d+1 ≤ x` suffices (`conv_rejects_valid_neg`);
  hypothesis of the partial: `H_dil_fits`.
-/

namespace MG.C16
open MG.Nnet

/-- **swv_accepts_iff.**  `sliding_window_view` accepts exactly the configurations with at least one
windowed axis in which, on every windowed axis, window, step and dilation are positive and the
`window*dilation` extent fits (`w*d ≤ x` — the rule the code's guards and its tests pin down). -/
theorem swv_accepts_iff (batch : List Int) (axes : List Ax) :
    accepted (swv batch axes) = true ↔
      axes ≠ [] ∧ ∀ a ∈ axes, 0 < a.w ∧ 0 < a.s ∧ 0 < a.d ∧ a.w * a.d ≤ a.x :=
  (swv_accepted_iff batch axes).trans (swvGuard_none_iff batch axes)

example : accepted (swv [10] [⟨12, 3, 2, 2⟩, ⟨6, 3, 2, 1⟩]) = true := by decide
example : accepted (swv [] [⟨5, 3, 1, 2⟩]) = false := by decide

/-- **swvSeq_accepts_iff.**  On argument *sequences*: accepted iff `window_shape` is non-empty with positive
entries and no longer than `arr.ndim`, `step` and `dilation` have exactly its length, and the per-axis rule
holds on the trailing axes. -/
theorem swvSeq_accepts_iff (shape window step : List Int) (dil : Option (List Int)) :
    accepted (swvSeq shape window step dil) = true ↔
      (∀ w ∈ window, 0 < w) ∧ window.length ≤ shape.length ∧ step.length = window.length ∧
      (dil.getD (window.map fun _ => 1)).length = window.length ∧
      mkAxes (shape.drop (shape.length - window.length)) window step (dil.getD (window.map fun _ => 1)) ≠ [] ∧
      ∀ a ∈ mkAxes (shape.drop (shape.length - window.length)) window step (dil.getD (window.map fun _ => 1)),
        0 < a.w ∧ 0 < a.s ∧ 0 < a.d ∧ a.w * a.d ≤ a.x := by
  simp only [swvSeq, accepted_ite_error, swv_accepts_iff, Bool.not_eq_true', Bool.not_eq_false, List.all_eq_true,
    decide_eq_true_eq, Nat.not_lt, ne_eq, Decidable.not_not]

/-- **swvSeq_rejects_length_mismatch.**  A `step` (or `dilation`) whose length differs from
`len(window_shape)` is rejected (utils.py l.150-152, l.182-184) — in particular an over-long `step`, which NumPy
would otherwise broadcast into an out-of-bounds view. -/
theorem swvSeq_rejects_length_mismatch (shape window step : List Int) (dil : Option (List Int))
    (h : step.length ≠ window.length ∨ (dil.getD (window.map fun _ => 1)).length ≠ window.length) :
    accepted (swvSeq shape window step dil) = false := by
  refine Bool.eq_false_iff.2 fun hacc => ?_
  obtain ⟨_, _, hs, hd, _⟩ := (swvSeq_accepts_iff _ _ _ _).1 hacc
  exact h.elim (· hs) (· hd)

example : accepted (swvSeq [5] [2] [1, 2] none) = false := by decide
example : swvSeq [10, 12, 6] [3, 3] [2, 2] (some [2, 1]) = swv [10] [⟨12, 3, 2, 2⟩, ⟨6, 3, 2, 1⟩] := rfl

/-- **swv_shape.**  An accepted call returns a read-only view of shape `(G…, batch…, W…)` where, on each
windowed axis, `G = (x - ((w-1)d+1)) // s + 1 ≥ 1` is exactly the number of placements `g ≥ 0` whose
dilated window `[g*s, g*s + (w-1)d]` lies inside the axis (placed greedily, none missing). -/
theorem swv_shape {batch : List Int} {axes : List Ax} {v : View}
    (h : swv batch axes = .ok v) :
    v.shape = axes.map grid ++ batch ++ axes.map (·.w) ∧ v.writeable = false ∧
      v.strides.length = v.shape.length ∧
      ∀ a ∈ axes, 0 < grid a ∧ ∀ g : Int, g < grid a ↔ g * a.s + ext a.w a.d ≤ a.x := by
  obtain ⟨hg, rfl⟩ := swv_ok h
  obtain ⟨_, hax⟩ := (swvGuard_none_iff _ _).1 hg
  refine ⟨rfl, rfl, ?_, fun a ha => ?_⟩
  · simp [swvResult, length_cstrides]
  · obtain ⟨hw, hs, hd, hf⟩ := hax a ha
    refine ⟨(lt_grid_iff hs 0).2 ?_, lt_grid_iff hs⟩
    show 0 * a.s + ((a.w - 1) * a.d + 1) ≤ a.x
    rw [Int.sub_mul]
    omega

example : swv [10] [⟨12, 3, 2, 2⟩, ⟨6, 3, 2, 1⟩] =
    .ok ⟨[4, 2, 10, 3, 3], [12, 2, 72, 12, 1], false⟩ := rfl

/-- **swv_offset.**  The element offset addressed by the view index `(G, N, K)` is the row-major offset of
`arr[N, G*step + K*dilation]`. -/
theorem swv_offset {batch : List Int} {axes : List Ax} {v : View}
    (h : swv batch axes = .ok v) (G N K : List Int)
    (hG : G.length = axes.length) (hN : N.length = batch.length) (hK : K.length = axes.length) :
    dot (G ++ N ++ K) v.strides = dot (N ++ pos G K axes) (cstrides (batch ++ axes.map (·.x))) := by
  obtain ⟨_, rfl⟩ := swv_ok h
  exact swvResult_offset batch axes G N K hG hN hK

/-- **swv_element.**  `out[g…, n…, k…] = arr[n…, g*step + k*dilation]`, for every accepted call and every
memory content. -/
theorem swv_element {batch : List Int} {axes : List Ax} {v : View} (mem : Mem)
    (h : swv batch axes = .ok v) (G N K : List Int)
    (hG : G.length = axes.length) (hN : N.length = batch.length) (hK : K.length = axes.length) :
    viewGet mem v (G ++ N ++ K) = arrGet mem (batch ++ axes.map (·.x)) (N ++ pos G K axes) := by
  unfold viewGet arrGet
  rw [swv_offset h G N K hG hN hK]

/-- hypotheses of `swv_element` are met by a 2-d window with step and dilation over a batch axis -/
example : ∃ v, swv [10] [⟨12, 3, 2, 2⟩, ⟨6, 3, 2, 1⟩] = .ok v ∧
    dot ([3, 1] ++ [7] ++ [2, 1]) v.strides = dot [7, 3 * 2 + 2 * 2, 1 * 2 + 1 * 1] (cstrides [10, 12, 6]) :=
  ⟨_, rfl, by decide⟩

/-- **swv_in_bounds.**  Memory safety of the `as_strided` call: every valid index of the returned view
addresses `arr[n…, p…]` with `(n…, p…)` a valid index of `arr`, hence an offset in `[0, arr.size)`. -/
theorem swv_in_bounds {batch : List Int} {axes : List Ax} {v : View}
    (h : swv batch axes = .ok v) (idx : List Int) (hi : InBox idx v.shape) :
    0 ≤ dot idx v.strides ∧ dot idx v.strides < prod (batch ++ axes.map (·.x)) := by
  obtain ⟨hg, rfl⟩ := swv_ok h
  obtain ⟨_, hax⟩ := (swvGuard_none_iff _ _).1 hg
  obtain ⟨G, N, K, rfl, hG, hN, hK, hbox⟩ :=
    swvResult_inBox batch axes (fun a ha => ⟨(hax a ha).2.1, (hax a ha).2.2.1⟩) idx hi
  rw [swvResult_offset batch axes G N K hG hN hK]
  exact dot_cstrides_bound hbox

example : ∃ v, swv [2] [⟨7, 3, 2, 2⟩] = .ok v ∧ InBox [1, 1, 2] v.shape := ⟨_, rfl, by decide⟩

/-- the documented validity of a configuration: at least one convolved axis, matching channel depth, and
on every axis a non-empty filter whose every placement lies inside the padded data and whose placements
tile it exactly -/
def ConvValid (c cw : Int) (axes : List CAx) : Prop :=
  axes ≠ [] ∧ c = cw ∧ ∀ a ∈ axes, 0 < a.w ∧ CAxTile a

/-- **conv_accepts_iff.**  What the code accepts: the valid configurations *that also satisfy
`w*d ≤ x+2p`* on every axis (the guard inherited from `sliding_window_view`). -/
theorem conv_accepts_iff (n c cw : Int) (axes : List CAx) :
    accepted (convView n c cw axes) = true ↔
      ConvValid c cw axes ∧ ∀ a ∈ axes, a.w * a.d ≤ a.x + 2 * a.p := by
  have h : accepted (convView n c cw axes) = true ↔
      convGuard c cw axes = none ∧ accepted (swv [n, c] (axes.map CAx.padded)) = true := accepted_guarded
  rw [h, swv_accepted_iff, convGuard_none_iff, swvGuard_none_iff, List.forall_mem_map]
  unfold ConvValid
  constructor
  · rintro ⟨⟨hne, hc, ht⟩, _, hax⟩
    exact ⟨⟨hne, hc, fun a ha => ⟨(hax a ha).1, ht a ha⟩⟩, fun a ha => (hax a ha).2.2.2⟩
  · rintro ⟨⟨hne, hc, h⟩, hf⟩
    refine ⟨⟨hne, hc, fun a ha => (h a ha).2⟩, by simpa using hne, fun a ha => ?_⟩
    obtain ⟨hw, hd, _, hs, _⟩ := h a ha
    exact ⟨hw, Int.lt_of_lt_of_le Int.zero_lt_one hs, Int.lt_of_lt_of_le Int.zero_lt_one hd, hf a ha⟩

/-- full statement: `conv_nd` accepts exactly the valid configurations -/
def conv_accepts_iff_tiles_statement : Prop :=
  ∀ (n c cw : Int) (axes : List CAx),
    accepted (convView n c cw axes) = true ↔ ConvValid c cw axes

/-- **conv_rejects_valid_neg.**  Witness: one axis, `x=5, w=3, stride=1, padding=0, dilation=2`: the dilated
filter has extent `(3-1)*2+1 = 5` and fits exactly once, yet the call is rejected (`3*2 > 5`). -/
theorem conv_rejects_valid_neg : ¬ conv_accepts_iff_tiles_statement := by
  intro h
  have hv : ConvValid 1 1 [⟨5, 3, 1, 0, 2⟩] :=
    ⟨by simp, rfl, List.forall_mem_singleton.2
      ⟨by decide, by decide, by decide, by decide, by decide, 0, by decide⟩⟩
  have := (h 1 1 1 [⟨5, 3, 1, 0, 2⟩]).2 hv
  revert this
  decide

/-- **conv_accepts_iff_tiles_partial** (`H_dil_fits`: `w*d ≤ x+2p` on every axis — always true for
`dilation = 1`). -/
theorem conv_accepts_iff_tiles_partial (n c cw : Int) (axes : List CAx)
    (H_dil_fits : ∀ a ∈ axes, a.w * a.d ≤ a.x + 2 * a.p) :
    accepted (convView n c cw axes) = true ↔ ConvValid c cw axes := by
  rw [conv_accepts_iff]
  exact ⟨fun h => h.1, fun h => ⟨h, H_dil_fits⟩⟩

/-- `H_dil_fits` is implied by validity whenever the dilation is 1 -/
theorem dil_fits_of_dilation_one (c cw : Int) (axes : List CAx) (hv : ConvValid c cw axes)
    (hd : ∀ a ∈ axes, a.d = 1) : ∀ a ∈ axes, a.w * a.d ≤ a.x + 2 * a.p := by
  intro a ha
  have := (hv.2.2 a ha).2.2.2.2.1
  rw [hd a ha] at this ⊢
  unfold ext at this
  omega

example : accepted (convView 2 3 3 [⟨7, 3, 2, 1, 1⟩, ⟨5, 2, 1, 0, 2⟩]) = true := by decide
example : accepted (convView 2 3 3 [⟨7, 3, 2, 0, 1⟩]) = true ∧
    accepted (convView 2 3 3 [⟨8, 3, 2, 0, 1⟩]) = false := by decide

/-- pointwise form, for every memory content and every output index -/
theorem conv_get_impl_eq_naive {n c cw : Int} {axes : List CAx} {v : View}
    (h : convView n c cw axes = .ok v) (xmem wmem : Mem)
    (n' f : Int) (g : List Int) (hg : g.length = axes.length) :
    convImplGet xmem v wmem c (axes.map (·.w)) (n' :: f :: g) =
      convNaiveGet xmem n c axes wmem (axes.map (·.w)) (n' :: f :: g) := by
  simp only [convImplGet, convTdot, convNaiveGet]
  congr 1
  refine map_indices_congr fun ck hck => ?_
  match ck, hck with
  | c' :: k, hck =>
    have := swv_element xmem (convView_ok h).2 g [n', c'] k (by simpa using hg) rfl (by simpa using hck)
    simp only [List.append_assoc, List.cons_append, List.nil_append, List.map_map] at this
    simp only [this]
    rfl

/-- **conv_impl_eq_naive.**  What `conv_nd` computes (window view → `tensordot` → `moveaxis`) is the naive
evaluation of `out[n,f,g…] = Σ_{c,k…} w[f,c,k…]·xpad[n,c,g·s+k·d…]`, for all configurations and all data
(and both reject the same configurations). -/
theorem conv_impl_eq_naive (n c cw f : Int) (axes : List CAx) (xbuf wbuf : List Int) :
    convImpl n c cw f axes xbuf wbuf = convNaive n c cw f axes xbuf wbuf := by
  unfold convImpl convNaive
  cases hv : convView n c cw axes with
  | error e => rfl
  | ok v =>
    simp only
    congr 2
    refine map_indices_congr fun idx hlen => ?_
    match idx, hlen with
    | n' :: f' :: g, hlen =>
      exact conv_get_impl_eq_naive hv _ _ n' f' g (by simpa [convOutShape] using hlen)

example : convImpl 1 2 2 1 [⟨5, 2, 1, 1, 2⟩] [1, 2, 3, 4, 5, 6, 7, 8, 9, 10] [1, -1, 2, 0] =
    .ok ([1, 1, 5], [-2, 10, 12, 14, 22]) := rfl

/-- **pool_accepts_iff.**  `max_pool` accepts exactly the configurations with at least one pooled axis in
which every pooling window lies inside the data and the placements tile it exactly. -/
theorem pool_accepts_iff (batch : List Int) (axes : List PAx) :
    accepted (poolView batch axes) = true ↔
      axes ≠ [] ∧ ∀ a ∈ axes, 0 < a.w ∧ 1 ≤ a.s ∧ a.w ≤ a.x ∧ a.s ∣ (a.x - a.w) := by
  have h : accepted (poolView batch axes) = true ↔
      poolGuard axes = none ∧ accepted (swv batch (axes.map PAx.toAx)) = true := accepted_guarded
  rw [h, swv_accepted_iff, poolGuard_none_iff, swvGuard_none_iff, List.forall_mem_map]
  constructor
  · rintro ⟨h, hne, _⟩
    exact ⟨by simpa using hne, h⟩
  · rintro ⟨hne, h⟩
    refine ⟨h, by simpa using hne, fun a ha => ?_⟩
    obtain ⟨hw, hs, hx, _⟩ := h a ha
    exact ⟨hw, Int.lt_of_lt_of_le Int.zero_lt_one hs, Int.zero_lt_one, by simpa [PAx.toAx] using hx⟩

example : accepted (poolView [10, 3] [⟨12, 2, 2⟩, ⟨12, 2, 1⟩]) = true := by decide
example : accepted (poolView [] [⟨5, 2, 2⟩]) = false := by decide

theorem pool_get_impl_eq_naive {batch : List Int} {axes : List PAx} {v : View}
    (h : poolView batch axes = .ok v) (mem : Mem)
    (idx : List Int) (hidx : idx.length = batch.length + axes.length) :
    poolImplGet mem v batch.length (axes.map (·.w)) idx = poolNaiveGet mem batch axes idx := by
  simp only [poolImplGet, poolMaxed, poolNaiveGet]
  congr 1
  refine map_indices_congr fun k hk => ?_
  have := swv_element mem (poolView_ok h).2 (idx.drop batch.length) (idx.take batch.length) k
    (by simp [hidx]) (by simp [hidx]) (by simpa using hk)
  simp only [List.map_map] at this
  rw [this]
  rfl

/-- **pool_impl_eq_naive.**  Window view → `max` over the window axes → transpose equals
`out[n…, g…] = max_k x[n…, g·s + k]`, for all configurations and all data. -/
theorem pool_impl_eq_naive (batch : List Int) (axes : List PAx) (buf : List Int) :
    maxPoolImpl batch axes buf = maxPoolNaive batch axes buf := by
  unfold maxPoolImpl maxPoolNaive
  cases hv : poolView batch axes with
  | error e => rfl
  | ok v =>
    simp only
    congr 2
    exact map_indices_congr fun idx hlen => pool_get_impl_eq_naive hv _ idx (by simpa [poolOutShape] using hlen)

example : maxPoolImpl [] [⟨3, 2, 1⟩, ⟨3, 2, 1⟩] [0, 10, 8, 2, 7, 3, 5, 7, 20] =
    .ok ([2, 2], [10, 10, 7, 20]) := rfl

end MG.C16
