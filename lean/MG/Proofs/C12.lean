import MG.Proofs.Lemmas.OpStep
/-!
# C12 — operations never modify their inputs, and gradients are never aliased

Frame theorems about the engine model: which parts of the heap a step can change.
-/
namespace MG.C12
open MG.Eng MG.ND

/-- the heap a call leaves behind, whether it returned or raised -/
def heapAfter : Except (Err × Heap) Heap → Heap
  | .ok h' => h'
  | .error (_, h') => h'

/-- **backward_frames_data.**  `backward` — whether it completes, is rejected, or is interrupted by an
error half-way — writes no array buffer: the data of every tensor (and every other ndarray the
model knows) is exactly what it was. -/
theorem backward_frames_data (h : Heap) (L : Nat) (seed : Seed) :
    (heapAfter (backward h L seed)).bufs = h.bufs := by
  obtain ⟨hh, s, e | ⟨_, e⟩⟩ := backward_exits (·.data) (fun _ _ _ _ _ => rfl) h L seed
  · rw [e]; exact (clearGraph_step hh.fuel hh L).bufs.trans s.bufs
  · rw [e]; exact s.bufs

/-- **op_frames_input_data.**  A (non-in-place) MyGrad operation leaves every existing array buffer —
the data of its inputs, of every other tensor, and the caller's arrays — unchanged: the only buffers
it writes are freshly allocated ones. -/
theorem op_frames_input_data (h : Heap) (kind : Kind) (inputs : List Operand) (constant : Option Bool)
    (wm : Option (Shape × List Bool)) (h' : Heap) (o : Nat)
    (hok : opStep h kind inputs constant wm = .ok (h', o)) (b : Nat) (hb : b < h.next) :
    h'.buf b = h.buf b := by
  obtain ⟨hh, outArr, parent, us, hfwd, hrec⟩ := opStep_ok hok
  -- wrapping the literals and the forward pass extend the heap; the recording touches no buffer
  have he := ((wrap_ext inputs h).trans (forwardOp_ext hfwd).1).buf b hb
  obtain ⟨-, -, -, -, -, hr, -⟩ := recordOp_spec (·.data) (fun _ _ _ _ _ _ _ => rfl) hh kind _ us _ constant wm outArr parent
  rw [hrec] at hr
  simp only [Heap.buf] at he ⊢
  rw [hr, he]

/-- **stored_grads_are_fresh_objects.**  Every gradient `backward` stores is a distinct, newly
created array object: the identities given out by `storeGrads` are consecutive fresh ids, so no two
stored gradients are the same object and none is an object that existed before. -/
theorem stored_grads_are_fresh_objects (gr : GMap) (h : Heap) :
    (storeGrads h gr).next = h.next + gr.length := by
  unfold storeGrads
  induction gr generalizing h with
  | nil => rfl
  | cons p ps ih =>
    simp only [List.foldl_cons, List.length_cons]
    rw [ih]
    simp
    omega

end MG.C12
