import MG.Proofs.Lemmas.LinearBasic

/-! Helper lemmas: masks, set-item, cumulative sums. -/
namespace MG.Lin

variable {R : Type} [CommSemiring R]

theorem dot_maskMul (m : List Bool) (g y : List R) : dot g (maskMul m y) = dot (maskMul m g) y := by
  induction m generalizing g y with
  | nil => simp only [maskMul, dot_nil_left, dot_nil_right]
  | cons b m ih =>
    match g, y with
    | [], _ => simp only [maskMul, dot_nil_left]
    | _ :: _, [] => simp only [maskMul, dot_nil_right]
    | g0 :: g, y0 :: y => simp only [maskMul, dot_cons, ih, mul_ite, ite_mul, mul_zero, zero_mul]

@[simp] theorem length_maskMul (m : List Bool) (y : List R) : (maskMul m y).length = min m.length y.length := by
  induction m generalizing y with
  | nil => simp only [maskMul, List.length_nil, Nat.zero_min]
  | cons b m ih =>
    cases y with
    | nil => rfl
    | cons v y => simp only [maskMul, List.length_cons, ih, Nat.succ_min_succ]

/-- `np.where(m, y, c) = m ⊙ y + ¬m ⊙ c` (all three truncate to the shortest list) -/
theorem select_eq_vadd (m : List Bool) (y c : List R) :
    select m y c = vadd (maskMul m y) (maskMul (notMask m) c) := by
  induction m generalizing y c with
  | nil => rfl
  | cons b m ih =>
    match y, c with
    | [], _ => rfl
    | _ :: _, [] => rfl
    | y0 :: y, c0 :: c =>
      cases b
      · show c0 :: select m y c = (0 + c0) :: vadd (maskMul m y) (maskMul (notMask m) c)
        rw [zero_add, ih]
      · show y0 :: select m y c = (y0 + 0) :: vadd (maskMul m y) (maskMul (notMask m) c)
        rw [add_zero, ih]

@[simp] theorem length_zeroAt (g : List R) (idx : List Nat) : (zeroAt g idx).length = g.length := by
  induction idx generalizing g with
  | nil => rfl
  | cons i is ih => simp [zeroAt, ih]

set_option linter.unusedSectionVars false in
@[simp] theorem length_setitem (a : List R) (idx : List Nat) (b : List R) : (setitem a idx b).length = a.length := by
  fun_induction setitem a idx b with
  | case1 a i is v vs ih => rw [ih, List.length_set]
  | case2 a is vs _ => rfl

theorem zeroAt_set_comm (g : List R) (i : Nat) (idx : List Nat) :
    zeroAt (g.set i 0) idx = (zeroAt g idx).set i 0 := by
  induction idx generalizing g with
  | nil => rfl
  | cons j is ih =>
    simp only [zeroAt]
    by_cases hij : i = j
    · subst hij
      rw [List.set_set, ← ih, List.set_set]
    · rw [List.set_comm _ _ hij, ih]

theorem getD_set_zero (g : List R) (i j : Nat) : (g.set j 0).getD i 0 = if i = j then 0 else g.getD i 0 := by
  simp only [List.getD_eq_getElem?_getD, List.getElem?_set]
  by_cases h : i = j
  · subst h
    by_cases hl : i < g.length <;> simp [hl]
  · simp [h, Ne.symm h]

theorem getD_zeroAt (g : List R) (idx : List Nat) (i : Nat) :
    (zeroAt g idx).getD i 0 = if i ∈ idx then 0 else g.getD i 0 := by
  induction idx generalizing g with
  | nil => simp [zeroAt]
  | cons j is ih =>
    simp only [zeroAt, zeroAt_set_comm, getD_set_zero, ih, List.mem_cons]
    by_cases h : i = j <;> simp [h]

theorem winCoef_of_nodup (g : List R) (idx : List Nat) (h : idx.Nodup) : winCoef g idx = gather idx g := by
  induction idx with
  | nil => rfl
  | cons i is ih =>
    obtain ⟨hi, hnd⟩ := List.nodup_cons.mp h
    rw [winCoef, ih hnd]
    simp [gather, hi]

@[simp] theorem length_cumsum (x : List R) : (cumsum x).length = x.length := by
  induction x with
  | nil => rfl
  | cons a l ih => simp [cumsum, ih]

theorem dot_map_add (c : R) (g y : List R) (h : g.length = y.length) :
    dot g (y.map (c + ·)) = c * vsum g + dot g y := by
  induction g, y, h using length_eq_induction with
  | nil => simp [vsum]
  | cons g0 g y0 y _ ih => simp only [List.map_cons, dot_cons, ih, vsum]; ring

theorem dot_cumsum (g x : List R) (h : g.length = x.length) : dot g (cumsum x) = dot (suffixSums g) x := by
  induction g, x, h using length_eq_induction with
  | nil => simp [suffixSums]
  | cons g0 g x0 x h ih =>
    simp only [cumsum, dot_cons, suffixSums, dot_map_add x0 g (cumsum x) (by simp [h]), ih]
    ring

theorem vsum_eq_sum (l : List R) : vsum l = l.sum := by
  induction l with
  | nil => rfl
  | cons a l ih => rw [vsum, ih, List.sum_cons]

theorem vsum_reverse (a : List R) : vsum a.reverse = vsum a := by
  rw [vsum_eq_sum, vsum_eq_sum, List.sum_reverse]

theorem cumsum_append_singleton (l : List R) (a : R) : cumsum (l ++ [a]) = cumsum l ++ [vsum l + a] := by
  induction l with
  | nil => simp [cumsum, vsum]
  | cons b l ih => simp [cumsum, ih, vsum, add_assoc]

end MG.Lin
