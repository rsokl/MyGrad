import Mathlib.Algebra.BigOperators.Group.List.Basic

/-!
Reverse accumulation over an edge list, processed in any consumers-first order, satisfies the
declarative adjoint equations; on an acyclic graph those equations have exactly one solution.
Generic in the gradient type `G` (any commutative additive monoid).
-/
namespace MG.Adj

variable {G : Type} [AddCommMonoid G]

structure Edge (G : Type) where
  c : Nat          -- consumer (output tensor of the op)
  t : Nat          -- target  (an input tensor of the op)
  vjp : G → G

def contrib (es : List (Edge G)) (val : Nat → G) (p : Edge G → Bool) : G :=
  ((es.filter p).map (fun e => e.vjp (val e.c))).sum

/-- process node `c`: push contributions along all edges out of `c`, reading `grad c` -/
def pushNode (es : List (Edge G)) (grad : Nat → G) (c : Nat) : Nat → G :=
  fun t => grad t + contrib es (fun _ => grad c) (fun e => decide (e.c = c) && decide (e.t = t))

def run (es : List (Edge G)) (ord : List Nat) (g0 : Nat → G) : Nat → G :=
  ord.foldl (pushNode es) g0

def IsAdj (es : List (Edge G)) (seed adj : Nat → G) : Prop :=
  ∀ t, adj t = seed t + contrib es adj (fun e => decide (e.t = t))

/-- invariant after processing prefix `P` -/
def PInv (es : List (Edge G)) (seed : Nat → G) (P : List Nat) (g : Nat → G) : Prop :=
  ∀ t, g t = seed t + contrib es g (fun e => decide (e.t = t) && decide (e.c ∈ P))

theorem contrib_congr (es : List (Edge G)) (v w : Nat → G) (p : Edge G → Bool)
    (h : ∀ e ∈ es, p e = true → v e.c = w e.c) : contrib es v p = contrib es w p := by
  unfold contrib
  congr 1
  apply List.map_congr_left
  intro e he
  have := List.mem_filter.mp he
  rw [h e this.1 this.2]

theorem contrib_cons (e : Edge G) (es : List (Edge G)) (v : Nat → G) (p : Edge G → Bool) :
    contrib (e :: es) v p = (if p e then e.vjp (v e.c) else 0) + contrib es v p := by
  unfold contrib
  by_cases h : p e <;> simp [h]

/-- `contrib` edge by edge, so that an identity between contributions can be checked one edge at a time -/
theorem contrib_eq_sum (es : List (Edge G)) (v : Nat → G) (p : Edge G → Bool) :
    contrib es v p = (es.map fun e => if p e then e.vjp (v e.c) else 0).sum := by
  induction es with
  | nil => rfl
  | cons e es ih => rw [contrib_cons, ih, List.map_cons, List.sum_cons]

theorem filter_flatMap_key {α : Type} (key : α → Nat) (f : Nat → List α) (hf : ∀ c, ∀ e ∈ f c, key e = c) (c : Nat) :
    ∀ (l : List Nat), l.Nodup → (l.flatMap f).filter (fun e => decide (key e = c)) = if c ∈ l then f c else [] := by
  intro l
  induction l with
  | nil => intro _; simp
  | cons a l ih =>
    intro hnd
    obtain ⟨ha, hl⟩ := List.nodup_cons.mp hnd
    rw [List.flatMap_cons, List.filter_append, ih hl]
    by_cases hac : a = c
    · subst hac
      have h1 : (f a).filter (fun e => decide (key e = a)) = f a :=
        List.filter_eq_self.mpr fun e he => by simp [hf a e he]
      simp [h1, ha]
    · have h1 : (f a).filter (fun e => decide (key e = c)) = [] :=
        List.filter_eq_nil_iff.mpr fun e he => by simp [hf a e he, hac]
      have : (c ∈ a :: l) ↔ c ∈ l := by simp [Ne.symm hac]
      simp [h1, this]

theorem pushNode_flatMap (F : Nat → List (Edge G)) (hF : ∀ c, ∀ e ∈ F c, e.c = c) (nodes : List Nat)
    (hn : nodes.Nodup) (c : Nat) (hc : c ∈ nodes) (grad : Nat → G) :
    pushNode (nodes.flatMap F) grad c =
      fun t => grad t + contrib (F c) (fun _ => grad c) (fun e => decide (e.t = t)) := by
  funext t
  unfold pushNode contrib
  rw [← List.filter_filter, List.filter_comm, filter_flatMap_key (fun e : Edge G => e.c) F hF c nodes hn, if_pos hc]

/-- pushing `c` changes the gradient only at the targets of the edges out of `c` -/
theorem pushNode_of_no_edge (es : List (Edge G)) (g : Nat → G) (c u : Nat) (h : ∀ e ∈ es, e.c = c → e.t ≠ u) :
    pushNode es g c u = g u := by
  unfold pushNode
  rw [contrib_eq_sum, List.sum_eq_zero, add_zero]
  intro x hx
  obtain ⟨e, he, rfl⟩ := List.mem_map.mp hx
  refine if_neg fun hp => ?_
  simp only [Bool.and_eq_true, decide_eq_true_eq] at hp
  exact h e he hp.1 hp.2

theorem step_inv (es : List (Edge G)) (seed : Nat → G) (P : List Nat) (g : Nat → G) (c : Nat)
    (hInv : PInv es seed P g)
    (hc : c ∉ P)
    -- no edge out of c targets an already-processed node or c itself
    (hfresh : ∀ e ∈ es, e.c = c → e.t ∉ P ∧ e.t ≠ c) :
    PInv es seed (P ++ [c]) (pushNode es g c) := by
  intro t
  -- the values the new invariant reads are at consumers in `P ++ [c]`, where `pushNode` did not change `g`
  have hsame (u : Nat) (hu : u ∈ P ∨ u = c) : pushNode es g c u = g u :=
    pushNode_of_no_edge es g c u fun e he hec het =>
      hu.elim (fun h => (hfresh e he hec).1 (het ▸ h)) fun h => (hfresh e he hec).2 (het.trans h)
  -- edge by edge: an edge into `t` from `P` has the term it had, one from `c` has the term the push added
  show g t + _ = _
  rw [hInv t, add_assoc, contrib_eq_sum, contrib_eq_sum, contrib_eq_sum, ← List.sum_map_add]
  congr 2
  refine List.map_congr_left fun e _ => ?_
  by_cases ht : e.t = t
  · by_cases hP : e.c ∈ P
    · have hne : e.c ≠ c := fun h => hc (h ▸ hP)
      simp [ht, hP, hne, hsame e.c (Or.inl hP)]
    · by_cases hec : e.c = c
      · simp [ht, hec, hc, hsame c (Or.inr rfl)]
      · simp [ht, hP, hec]
  · simp [ht]

/-- an order is consumers-first for the edge list if, whenever it is split as `P ++ c :: R`,
    no edge out of `c` targets a node of `P` or `c` itself, and it has no duplicates -/
def ConsumersFirst (es : List (Edge G)) : List Nat → List Nat → Prop
  | _, [] => True
  | P, c :: R => c ∉ P ∧ (∀ e ∈ es, e.c = c → e.t ∉ P ∧ e.t ≠ c) ∧ ConsumersFirst es (P ++ [c]) R

theorem run_inv (es : List (Edge G)) (seed : Nat → G) :
    ∀ (R P : List Nat) (g : Nat → G), PInv es seed P g → ConsumersFirst es P R →
      PInv es seed (P ++ R) (run es R g) := by
  intro R
  induction R with
  | nil => intro P g h _; simpa [run] using h
  | cons c R ih =>
    intro P g h hcf
    obtain ⟨hc, hfresh, hrest⟩ := hcf
    have := ih (P ++ [c]) (pushNode es g c) (step_inv es seed P g c h hc hfresh) hrest
    simpa [run, List.append_assoc] using this

theorem inv_nil (es : List (Edge G)) (seed : Nat → G) : PInv es seed [] seed := by
  intro t; simp [contrib]

/-- Soundness: if the order is consumers-first and contains the consumer of every edge,
    the accumulated gradients satisfy the adjoint equations. -/
theorem run_isAdj (es : List (Edge G)) (seed : Nat → G) (ord : List Nat)
    (hcf : ConsumersFirst es [] ord) (hall : ∀ e ∈ es, e.c ∈ ord) :
    IsAdj es seed (run es ord seed) := by
  have h := run_inv es seed ord [] seed (inv_nil es seed) hcf
  intro t
  have ht := h t
  rw [ht]
  congr 1
  unfold contrib
  congr 2
  apply List.filter_congr
  intro e he
  simp [hall e he]

/-- Uniqueness on any acyclic edge list: a rank function that strictly decreases along edges. -/
theorem isAdj_unique_rank (es : List (Edge G)) (seed a b : Nat → G) (rank : Nat → Nat)
    (hdag : ∀ e ∈ es, rank e.t < rank e.c)
    (ha : IsAdj es seed a) (hb : IsAdj es seed b) : ∀ t, a t = b t := by
  -- ranks grow towards the consumers and are bounded, the edge list being finite
  obtain ⟨N, hN⟩ : ∃ N, ∀ e ∈ es, rank e.c < N := by
    clear hdag ha hb
    induction es with
    | nil => exact ⟨0, fun e he => by simp at he⟩
    | cons e es ih =>
      obtain ⟨N, hN⟩ := ih
      refine ⟨max N (rank e.c + 1), fun e' he' => ?_⟩
      rcases List.mem_cons.mp he' with rfl | he'
      · omega
      · have := hN e' he'; omega
  intro t
  induction hk : N - rank t using Nat.strongRecOn generalizing t with
  | _ k ih =>
    rw [ha t, hb t]
    congr 1
    refine contrib_congr es a b _ fun e he hp => ?_
    obtain rfl : e.t = t := by simpa using hp
    have := hdag e he
    have := hN e he
    exact ih (N - rank e.c) (by omega) e.c rfl

/-- Uniqueness on a DAG whose edges go from larger to smaller index. -/
theorem isAdj_unique [IsCancelAdd G] (es : List (Edge G)) (seed a b : Nat → G)
    (hdag : ∀ e ∈ es, e.t < e.c) (N : Nat) (hN : ∀ e ∈ es, e.c < N)
    (ha : IsAdj es seed a) (hb : IsAdj es seed b) : ∀ t, a t = b t :=
  isAdj_unique_rank es seed a b id hdag ha hb

/-- The adjoint equations do not depend on the order in which edges (operands, sibling
sub-expressions) were recorded. -/
theorem isAdj_perm (es es' : List (Edge G)) (hp : es.Perm es') (seed a : Nat → G)
    (ha : IsAdj es seed a) : IsAdj es' seed a := by
  intro t
  rw [ha t]
  congr 1
  unfold contrib
  exact ((hp.filter _).map _).sum_eq

end MG.Adj
