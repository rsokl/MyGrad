import Mathlib.Analysis.SpecialFunctions.Trigonometric.Arctan
import Mathlib.Analysis.SpecialFunctions.Trigonometric.Inverse
import Mathlib.Analysis.SpecialFunctions.Pow.Real
import Mathlib.Analysis.SpecialFunctions.Sqrt
import Mathlib.Analysis.SpecialFunctions.Arsinh
import Mathlib.Analysis.SpecialFunctions.Arcosh
import Mathlib.Analysis.SpecialFunctions.Artanh

/-!
# Real-number reading of the NumPy functions that Mathlib does not provide under the same name

Part of the TRUSTED BASE of C02 (together with the ufunc ↦ Mathlib table in `harness/props/c02_trace.py`): these
definitions say which real function each NumPy ufunc denotes on its domain.  They are hand-written, not generated.

* `np.cbrt`    — the real cube root, odd: `cbrt (-x) = - cbrt x`.
* `np.sinc`    — the *normalised* sinc `sin (π x) / (π x)`, `1` at `0`.
* `np.arctan2` — `arctan2 a b` is the angle in `(-π, π]` of the point with abscissa `b` and ordinate `a`.
* `o2`         — strict lifting of a binary real function to `Option ℝ` (`none` stands for NaN; used only for the
                 `nan_to_num=False` variant of `abs`).
-/

namespace MG.NP

noncomputable def cbrt (x : ℝ) : ℝ :=
  if 0 ≤ x then x ^ ((1 : ℝ) / 3) else -((-x) ^ ((1 : ℝ) / 3))

noncomputable def sinc (x : ℝ) : ℝ :=
  if x = 0 then 1 else Real.sin (Real.pi * x) / (Real.pi * x)

noncomputable def arctan2 (a b : ℝ) : ℝ :=
  if 0 < b then Real.arctan (a / b)
  else if b < 0 then (if 0 ≤ a then Real.arctan (a / b) + Real.pi else Real.arctan (a / b) - Real.pi)
  else if 0 < a then Real.pi / 2
  else if a < 0 then -(Real.pi / 2)
  else 0

def o2 (f : ℝ → ℝ → ℝ) (a b : Option ℝ) : Option ℝ :=
  a.bind fun a => b.map (f a)

/-- `cbrt` really is the cube root. -/
theorem cbrt_pow_three (x : ℝ) : cbrt x ^ 3 = x := by
  have cube : ∀ {y : ℝ}, 0 ≤ y → (y ^ ((1 : ℝ) / 3)) ^ 3 = y := fun h => by
    rw [← Real.rpow_natCast, ← Real.rpow_mul h]; norm_num
  unfold cbrt
  split
  · next h => exact cube h
  · next h => rw [Odd.neg_pow (n := 3) ⟨1, rfl⟩, cube (neg_nonneg.mpr (le_of_not_ge h)), neg_neg]

end MG.NP
