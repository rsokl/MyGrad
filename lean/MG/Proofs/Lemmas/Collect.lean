import MG.Core.Engine
/-!
The DFS of `collect_all_tensors_and_clear_grads` (model: `MG.Eng.collect`) on an acyclic graph
returns a duplicate-free list of non-constant tensors that contains the root and in which every
member's non-constant inputs occur strictly later — i.e. every tensor comes after all of its
consumers.  Core Lean only.
-/
namespace MG.Eng

variable (h : Heap)

/-- inputs of every member lie in the tail after it (unless they are constants) -/
inductive Ordered : List Nat → Prop
  | nil : Ordered []
  | cons {c : Nat} {B : List Nat} :
      (∀ t ∈ h.inp c, (h.t t).const = false → t ∈ B) → Ordered B → Ordered (c :: B)

/-- what one `collect` call guarantees, given a good accumulator -/
structure Post (rank : Nat → Nat) (t : Nat) (topo res : List Nat) : Prop where
  suffix : ∃ pre, res = pre ++ topo
  /-- what the call adds has rank at most `rank t`; the descent into `t`'s inputs adds ranks below it, so `t` is not
  among what they added and `nodup` survives putting `t` in front -/
  bound : ∀ x ∈ res, x ∈ topo ∨ rank x ≤ rank t
  mem : (h.t t).const = false → t ∈ res
  ord : Ordered h res
  nodup : res.Nodup
  nonconst : ∀ x ∈ res, (h.t x).const = false

theorem foldlM_post (rank : Nat → Nat) (fuel : Nat)
    (ih : ∀ t touched topo, rank t < fuel → Ordered h topo → topo.Nodup →
        (∀ x ∈ topo, (h.t x).const = false) →
        ∃ touched' res, collect fuel h t touched topo = some (touched', res) ∧ Post h rank t topo res) :
    ∀ (vs : List Nat) (b : Nat) (touched topo : List Nat), (∀ v ∈ vs, rank v < fuel) →
      (∀ v ∈ vs, rank v < b) → Ordered h topo → topo.Nodup → (∀ x ∈ topo, (h.t x).const = false) →
      ∃ touched' res,
        vs.foldlM (fun (acc : List Nat × List Nat) v => collect fuel h v acc.1 acc.2) (touched, topo)
          = some (touched', res) ∧
        (∃ pre, res = pre ++ topo) ∧ (∀ x ∈ res, x ∈ topo ∨ rank x < b) ∧
        (∀ v ∈ vs, (h.t v).const = false → v ∈ res) ∧ Ordered h res ∧ res.Nodup ∧
        (∀ x ∈ res, (h.t x).const = false) := by
  intro vs
  induction vs with
  | nil =>
    intro b touched topo _ _ ho hn hc
    exact ⟨touched, topo, rfl, ⟨[], rfl⟩, fun x hx => Or.inl hx, by simp, ho, hn, hc⟩
  | cons v vs ihv =>
    intro b touched topo hf hb ho hn hc
    obtain ⟨t1, r1, h1, p1⟩ := ih v touched topo (hf v (List.mem_cons_self ..)) ho hn hc
    obtain ⟨t2, r2, h2, ⟨pre2, e2⟩, hbd, hmem, ho', hn', hc'⟩ :=
      ihv b t1 r1 (fun w hw => hf w (List.mem_cons_of_mem _ hw))
        (fun w hw => hb w (List.mem_cons_of_mem _ hw)) p1.ord p1.nodup p1.nonconst
    obtain ⟨pre1, e1⟩ := p1.suffix
    refine ⟨t2, r2, ?_, ⟨pre2 ++ pre1, by rw [e2, e1, List.append_assoc]⟩, fun x hx => ?_,
      List.forall_mem_cons.mpr ⟨fun hcv => e2 ▸ List.mem_append_right _ (p1.mem hcv), hmem⟩, ho', hn', hc'⟩
    · simp only [List.foldlM_cons, h1]
      exact h2
    · rcases hbd x hx with hx1 | hx1
      · exact (p1.bound x hx1).imp_right fun h' => Nat.lt_of_le_of_lt h' (hb v (List.mem_cons_self ..))
      · exact Or.inr hx1

/-- `collect` succeeds and satisfies `Post` on every graph that has a rank function decreasing
along inputs (acyclicity), given enough fuel -/
theorem collect_post (rank : Nat → Nat) (hdag : ∀ t, ∀ v ∈ h.inp t, rank v < rank t) :
    ∀ fuel t touched topo, rank t < fuel → Ordered h topo → topo.Nodup →
      (∀ x ∈ topo, (h.t x).const = false) →
      ∃ touched' res, collect fuel h t touched topo = some (touched', res) ∧ Post h rank t topo res := by
  intro fuel
  induction fuel with
  | zero => intro t _ _ hlt; omega
  | succ fuel ih =>
    intro t touched topo hlt ho hn hc
    unfold collect
    by_cases hconst : (h.t t).const = true
    · simp only [hconst, ite_true]
      exact ⟨_, _, rfl, ⟨[], rfl⟩, fun x hx => Or.inl hx, fun hf => by simp [hconst] at hf, ho, hn, hc⟩
    · have hconst' : (h.t t).const = false := by simpa using hconst
      simp only [hconst', Bool.false_eq_true, ite_false]
      by_cases hin : topo.contains t = true
      · simp only [hin, ite_true]
        exact ⟨_, _, rfl, ⟨[], rfl⟩, fun x hx => Or.inl hx, fun _ => by simpa using hin, ho, hn, hc⟩
      · simp only [hin, Bool.false_eq_true, ite_false]
        have hnin : t ∉ topo := by simpa using hin
        have hf : ∀ v ∈ h.inp t, rank v < fuel := fun v hv => by
          have := hdag t v hv; omega
        obtain ⟨t2, r2, h2, ⟨pre, hp⟩, hbd, hmem, ho', hn', hc'⟩ :=
          foldlM_post h rank fuel ih (h.inp t) (rank t) (t :: touched) topo hf (hdag t) ho hn hc
        exact ⟨t2, t :: r2, by simp [h2], ⟨t :: pre, by simp [hp]⟩,
          List.forall_mem_cons.mpr ⟨.inr (Nat.le_refl _), fun x hx => (hbd x hx).imp_right Nat.le_of_lt⟩,
          fun _ => List.mem_cons_self .., Ordered.cons hmem ho',
          List.nodup_cons.mpr ⟨fun hx => (hbd t hx).elim hnin (Nat.lt_irrefl _), hn'⟩,
          List.forall_mem_cons.mpr ⟨hconst', hc'⟩⟩

end MG.Eng
