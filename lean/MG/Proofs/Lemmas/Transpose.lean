import MG.Proofs.Lemmas.Adjoint
import Mathlib.Algebra.BigOperators.Group.List.Lemmas
/-!
Reverse accumulation is the transpose of forward (tangent) propagation.

Given any pairing that is additive in both arguments and, for every edge, *local adjointness*
`⟨g, jvp_e dx⟩ = ⟨vjp_e g, dx⟩` (which is what C02 proves op by op), the adjoint solution `adj` and the
tangent solution `tan` of the same graph satisfy

    Σ_nodes ⟨adj t, dx t⟩ = Σ_nodes ⟨seed t, tan t⟩ .

With `seed` concentrated at the terminal tensor and `dx` at one leaf element this reads: the gradient
the engine stores at a leaf is the directional derivative of the terminal tensor along that leaf —
summed over every path, since `tan` propagates along every edge.
-/
namespace MG.Adj

variable {G R : Type} [AddCommGroup G] [AddCommGroup R]

/-- an edge with both its reverse (`vjp`) and its forward (`jvp`) linear map -/
structure Edge2 (G : Type) where
  c : Nat
  t : Nat
  vjp : G → G
  jvp : G → G

def Edge2.toEdge (e : Edge2 G) : Edge G := ⟨e.c, e.t, e.vjp⟩

/-- forward-mode equations: the tangent of a node is its own perturbation plus the images of the
tangents of its inputs -/
def IsTan (es : List (Edge2 G)) (dx tan : Nat → G) : Prop :=
  ∀ c, tan c = dx c + ((es.filter fun e => decide (e.c = c)).map fun e => e.jvp (tan e.t)).sum

/-- reverse-mode equations (same as `IsAdj` on the underlying edges) -/
def IsAdj2 (es : List (Edge2 G)) (seed adj : Nat → G) : Prop :=
  ∀ t, adj t = seed t + ((es.filter fun e => decide (e.t = t)).map fun e => e.vjp (adj e.c)).sum

theorem isAdj2_iff (es : List (Edge2 G)) (seed adj : Nat → G) :
    IsAdj2 es seed adj ↔ IsAdj (es.map Edge2.toEdge) seed adj := by
  have key (t : Nat) : contrib (es.map Edge2.toEdge) adj (fun e => decide (e.t = t)) =
      ((es.filter fun e => decide (e.t = t)).map fun e => e.vjp (adj e.c)).sum := by
    rw [contrib, List.filter_map, List.map_map]
    rfl
  exact forall_congr' fun t => by rw [key]

/-- summing, over a duplicate-free node list that contains every value of `key`, the contributions
of the items with that key is summing over all items -/
theorem sum_by_key {α : Type} (nodes : List Nat) (hn : nodes.Nodup) (items : List α) (key : α → Nat)
    (f : α → R) (hall : ∀ x ∈ items, key x ∈ nodes) :
    (nodes.map fun t => ((items.filter fun x => decide (key x = t)).map f).sum).sum = (items.map f).sum := by
  induction items with
  | nil => simp
  | cons x xs ih =>
    rw [List.map_cons, List.sum_cons, ← ih fun y hy => hall y (List.mem_cons_of_mem _ hy)]
    -- the inner sum gains `f x` at the key of `x`, which the duplicate-free `nodes` meets exactly once
    have h1 (t : Nat) : (((x :: xs).filter fun y => decide (key y = t)).map f).sum =
        if t = key x then f x + ((xs.filter fun y => decide (key y = t)).map f).sum
        else ((xs.filter fun y => decide (key y = t)).map f).sum := by
      by_cases e : t = key x <;> simp [e, eq_comm]
    simp only [h1]
    rw [List.sum_map_ite_eq, List.count_eq_one_of_mem hn (hall x (List.mem_cons_self ..))]
    simp [one_nsmul]

/-- if every node value is its own term plus the terms `f x` of the items keyed at it, then applying maps `φ t`
additive in the value and summing over the nodes separates the own terms from one term per item -/
theorem sum_expand {α : Type} (nodes : List Nat) (hn : nodes.Nodup) (items : List α) (key : α → Nat)
    (hall : ∀ x ∈ items, key x ∈ nodes) (φ : Nat → G → R) (hφ : ∀ t a b, φ t (a + b) = φ t a + φ t b)
    (val own : Nat → G) (f : α → G)
    (hval : ∀ t, val t = own t + ((items.filter fun x => decide (key x = t)).map f).sum) :
    (nodes.map fun t => φ t (val t)).sum =
      (nodes.map fun t => φ t (own t)).sum + (items.map fun x => φ (key x) (f x)).sum := by
  rw [← sum_by_key nodes hn items key _ hall, ← List.sum_map_add]
  congr 1
  refine List.map_congr_left fun t _ => ?_
  have psum (l : List G) : φ t l.sum = (l.map (φ t)).sum := map_list_sum (AddMonoidHom.mk' (φ t) (hφ t)) l
  rw [hval t, hφ, psum, List.map_map]
  congr 2
  refine List.map_congr_left fun x hx => ?_
  rw [of_decide_eq_true (List.mem_filter.mp hx).2]
  rfl

/-- **reverse_eq_transpose_forward.**  For every graph (any shape, fan-out, repeated operands), any
pairing additive in both arguments for which every edge's `vjp` is the transpose of its `jvp`, the
adjoint solution paired with the leaf perturbations equals the seed paired with the propagated
tangents. -/
theorem reverse_eq_transpose_forward (es : List (Edge2 G)) (nodes : List Nat) (hn : nodes.Nodup)
    (hc : ∀ e ∈ es, e.c ∈ nodes) (ht : ∀ e ∈ es, e.t ∈ nodes)
    (pair : G → G → R)
    (padd_l : ∀ a b c, pair (a + b) c = pair a c + pair b c)
    (padd_r : ∀ a b c, pair a (b + c) = pair a b + pair a c)
    (pzero_l : ∀ c, pair 0 c = 0) (pzero_r : ∀ a, pair a 0 = 0)
    (hlocal : ∀ e ∈ es, ∀ g dx, pair g (e.jvp dx) = pair (e.vjp g) dx)
    (seed dx adj tan : Nat → G) (hadj : IsAdj2 es seed adj) (htan : IsTan es dx tan) :
    (nodes.map fun t => pair (adj t) (dx t)).sum = (nodes.map fun t => pair (seed t) (tan t)).sum := by
  -- `Σ_t ⟨adj t, tan t⟩` expanded by the forward equations in `tan t`, resp. by the adjoint equations in `adj t`:
  -- either side plus the sum over the edges of `⟨adj e.c, jvp_e (tan e.t)⟩ = ⟨vjp_e (adj e.c), tan e.t⟩`
  have eL := sum_expand nodes hn es (·.c) hc (fun t => pair (adj t)) (fun t => padd_r (adj t)) tan dx _ htan
  have eR := sum_expand nodes hn es (·.t) ht (fun t a => pair a (tan t)) (fun t a b => padd_l a b (tan t))
    adj seed _ hadj
  rw [List.map_congr_left fun e he => hlocal e he _ _] at eL
  exact add_right_cancel (eL.symm.trans eR)

end MG.Adj
