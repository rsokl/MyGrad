import MG.Core.NDIndex
/-!
Foundations of the strided-array model: C-order ravel/unravel are inverse, a contiguous window
addresses its buffer positions in order, Fortran strides are the reversed C strides of the reversed
shape.  Core Lean only.
-/
namespace MG.ND

theorem size_cons (n : Nat) (s : Shape) : size (n :: s) = n * size s := rfl

theorem unravel_length (sh : Shape) (i : Nat) : (unravel sh i).length = sh.length := by
  induction sh generalizing i with
  | nil => rfl
  | cons n s ih => simp [unravel, ih]

/-- every component of `unravel sh i` is within its axis, for `i < size sh` -/
theorem unravel_lt (sh : Shape) (i : Nat) (hi : i < size sh) :
    ∀ k (hk : k < sh.length), (unravel sh i).getD k 0 < sh.getD k 0 := by
  induction sh generalizing i with
  | nil => intro k hk; simp at hk
  | cons n s ih =>
    intro k hk
    rw [size_cons] at hi
    have hs : 0 < size s := Nat.pos_of_lt_mul_left hi
    cases k with
    | zero =>
      simp only [unravel, List.getD_cons_zero]
      exact Nat.div_lt_of_lt_mul (by rw [Nat.mul_comm]; exact hi)
    | succ k =>
      simp only [unravel, List.getD_cons_succ]
      exact ih (i % size s) (Nat.mod_lt _ hs) k (by simpa using hk)

theorem ravel_unravel (sh : Shape) (i : Nat) (hi : i < size sh) : ravel sh (unravel sh i) = i := by
  induction sh generalizing i with
  | nil =>
    simp only [size, List.foldr_nil] at hi
    simp only [ravel]; omega
  | cons n s ih =>
    rw [size_cons] at hi
    have hs : 0 < size s := Nat.pos_of_lt_mul_left hi
    simp only [unravel, ravel]
    rw [ih (i % size s) (Nat.mod_lt _ hs)]
    have := Nat.div_add_mod i (size s)
    rw [Nat.mul_comm]; exact this

theorem dotI_cstrides (sh : Shape) (idx : List Nat) :
    dotI ((cstrides sh).map Int.ofNat) idx = (ravel sh idx : Int) := by
  induction sh generalizing idx with
  | nil => cases idx <;> rfl
  | cons n s ih =>
    cases idx with
    | nil => rfl
    | cons i is =>
      simp only [cstrides, List.map_cons, dotI, ravel, ih, Int.ofNat_eq_natCast, Int.natCast_add,
        Int.natCast_mul]
      rw [Int.mul_comm]

/-- a contiguous window at offset `off` addresses `off, off+1, …` in logical order -/
theorem positions_contig (off : Nat) (sh : Shape) :
    (Desc.contig off sh).positions = (List.range (size sh)).map (off + ·) := by
  unfold Desc.positions Desc.contig Desc.pos
  apply List.map_congr_left
  intro i hi
  simp only
  rw [dotI_cstrides, ravel_unravel sh i (List.mem_range.mp hi)]
  omega

theorem size_append_single (s : Shape) (n : Nat) : size (s ++ [n]) = size s * n :=
  List.prod_append_nat.trans (congrArg _ (Nat.mul_one n))

theorem cstrides_append_single (s : Shape) (n : Nat) :
    cstrides (s ++ [n]) = (cstrides s).map (· * n) ++ [1] := by
  induction s with
  | nil => simp [cstrides, size]
  | cons m s ih =>
    simp only [List.cons_append, cstrides, List.map_cons, ih, size_append_single]

theorem fstridesFrom_mul (acc : Nat) (s : Shape) :
    fstridesFrom acc s = (fstridesFrom 1 s).map (acc * ·) := by
  induction s generalizing acc with
  | nil => rfl
  | cons n s ih =>
    simp only [fstridesFrom, List.map_cons, Nat.mul_one, Nat.one_mul]
    rw [ih (acc * n), ih n]
    simp [List.map_map, Function.comp_def, Nat.mul_assoc]

theorem fstrides_eq_reverse_cstrides (s : Shape) : fstrides s = (cstrides s.reverse).reverse := by
  induction s with
  | nil => rfl
  | cons n s ih =>
    have h1 : fstrides (n :: s) = 1 :: (fstrides s).map (n * ·) := by
      simp only [fstrides, fstridesFrom, Nat.one_mul]
      rw [fstridesFrom_mul n s]
    rw [h1, ih, List.reverse_cons, cstrides_append_single]
    simp [List.map_reverse, Nat.mul_comm]

/-- **fortran_is_transposed_c.**  A Fortran-ordered array *is* the `.T` of the C-ordered array of the reversed
shape on the same buffer: every fact about C-contiguous windows and transposes transfers to it. -/
theorem fortran_is_transposed_c (off : Nat) (s : Shape) :
    (⟨off, s, (fstrides s).map Int.ofNat⟩ : Desc) = (Desc.contig off s.reverse).T := by
  simp [Desc.T, Desc.contig, fstrides_eq_reverse_cstrides, List.map_reverse]

end MG.ND
