import MG.Proofs.Lemmas.Heap
import MG.Proofs.Lemmas.NDIndexLemmas
/-!
Writing through a strided window and reading back: the buffer-level facts behind in-place updates.
`Heap.write` stores the values at the window's positions (later writes win: `scatter`); for a window whose
positions are pairwise distinct and inside the buffer, reading the window back returns the values,
and every position outside the window keeps its old content.  Core Lean only.
-/
namespace MG.C04V

/-- writing `vals` at the positions `ps` of a list (later writes win); the adjoints of C05 speak of the same function as
`MG.Lin.setitem` (`C05.model_setitem_fwd_eq`) -/
def scatter (old : List Int) (ps : List Nat) (vals : List Int) : List Int :=
  (List.zip ps vals).foldl (fun acc pv => acc.set pv.1 pv.2) old

theorem scatter_cons (old : List Int) (p : Nat) (ps : List Nat) (v : Int) (vals : List Int) :
    scatter old (p :: ps) (v :: vals) = scatter (old.set p v) ps vals := rfl

@[simp] theorem scatter_length (old : List Int) (ps : List Nat) (vals : List Int) :
    (scatter old ps vals).length = old.length := by
  induction ps generalizing old vals with
  | nil => rfl
  | cons p ps ih => cases vals with
    | nil => rfl
    | cons v vals => rw [scatter_cons, ih, List.length_set]

theorem scatter_getD_of_not_mem (old : List Int) (ps : List Nat) (vals : List Int) (q : Nat) (hq : q ∉ ps) :
    (scatter old ps vals).getD q 0 = old.getD q 0 := by
  induction ps generalizing old vals with
  | nil => rfl
  | cons p ps ih => cases vals with
    | nil => rfl
    | cons v vals =>
      rw [scatter_cons, ih _ _ fun m => hq (List.mem_cons_of_mem _ m)]
      have hp : p ≠ q := fun e => hq (e ▸ List.mem_cons_self ..)
      simp [List.getD_eq_getElem?_getD, hp]

theorem scatter_getD (old : List Int) (ps : List Nat) (vals : List Int) (hn : ps.Nodup)
    (hl : vals.length = ps.length) (hb : ∀ p ∈ ps, p < old.length) (j : Nat) (hj : j < ps.length) :
    (scatter old ps vals).getD (ps.getD j 0) 0 = vals.getD j 0 := by
  induction ps generalizing old vals j with
  | nil => simp at hj
  | cons p ps ih =>
    cases vals with
    | nil => simp at hl
    | cons v vals =>
      have hn' := List.nodup_cons.mp hn
      rw [scatter_cons]
      cases j with
      | zero =>
        rw [List.getD_cons_zero, scatter_getD_of_not_mem _ _ _ _ hn'.1]
        simp [List.getD_eq_getElem?_getD, hb p (List.mem_cons_self ..)]
      | succ j =>
        simp only [List.getD_cons_succ]
        exact ih _ vals hn'.2 (by simpa using hl)
          (fun q hq => by rw [List.length_set]; exact hb q (List.mem_cons_of_mem _ hq)) j (by simpa using hj)

theorem gather_scatter (old : List Int) (ps : List Nat) (vals : List Int) (hn : ps.Nodup)
    (hl : vals.length = ps.length) (hb : ∀ p ∈ ps, p < old.length) :
    (ps.map fun p => (scatter old ps vals).getD p 0) = vals := by
  apply List.ext_getElem
  · simp [hl]
  · intro i h1 h2
    simp only [List.length_map] at h1
    have := scatter_getD old ps vals hn hl hb i h1
    have e1 : ps.getD i 0 = ps[i] := by rw [List.getD_eq_getElem?_getD, List.getElem?_eq_getElem h1]; rfl
    have e2 : vals.getD i 0 = vals[i] := by rw [List.getD_eq_getElem?_getD, List.getElem?_eq_getElem h2]; rfl
    rw [e1, e2] at this
    simpa using this

open MG.ND

theorem positions_contig_lt (sh : Shape) : ∀ p ∈ (Desc.contig 0 sh).positions, p < size sh := by
  intro p hp
  rw [positions_contig] at hp
  obtain ⟨i, hi, rfl⟩ := List.mem_map.mp hp
  simpa using List.mem_range.mp hi

theorem gather_contig (l : List Int) (sh : Shape) (hl : l.length = size sh) :
    ((Desc.contig 0 sh).positions.map fun p => l.getD p 0) = l := by
  rw [positions_contig]
  apply List.ext_getElem
  · simp [hl]
  · intro i h1 h2
    simp [List.getD_eq_getElem?_getD, List.getElem?_eq_getElem h2]

theorem scatter_whole (old vals : List Int) (sh : Shape) (ho : old.length = size sh) (hv : vals.length = size sh) :
    scatter old (Desc.contig 0 sh).positions vals = vals := by
  have hp := positions_contig 0 sh
  have hnd : (Desc.contig 0 sh).positions.Nodup := by rw [hp, ← List.range'_eq_map_range]; exact List.nodup_range'
  have hg := gather_scatter old _ vals hnd (by rw [hp]; simp [hv]) fun p hm => ho ▸ positions_contig_lt sh p hm
  exact (gather_contig _ sh (by rw [scatter_length, ho])).symm.trans hg

end MG.C04V

namespace MG.Eng
open MG.ND MG.C04V

theorem buf_write (h : Heap) (a : Arr) (vals : List Int) :
    (h.write a vals).buf a.buf = scatter (h.buf a.buf) a.d.positions vals := by
  simp only [Heap.write, Heap.buf, scatter]
  rw [lookup_insert_self]
  rfl

/-- a window is read back from any heap whose buffer holds the values written through it -/
theorem read_scatter (F : Heap) (n : Nat) (dt : Desc) (old vals : List Int)
    (hF : F.buf n = scatter old dt.positions vals) (hn : dt.positions.Nodup) (hl : vals.length = dt.positions.length)
    (hb : ∀ p ∈ dt.positions, p < old.length) : F.read ⟨n, dt⟩ = vals := by
  simp only [Heap.read, hF]
  exact gather_scatter _ _ _ hn hl hb

/-- **read_write_same.**  An in-place write through a window whose positions are pairwise distinct and
lie inside its buffer is read back exactly (`a[...] = vals; a` gives `vals`). -/
theorem read_write_same (h : Heap) (a : Arr) (vals : List Int) (hn : a.d.positions.Nodup)
    (hl : vals.length = a.d.positions.length) (hb : ∀ p ∈ a.d.positions, p < (h.buf a.buf).length) :
    (h.write a vals).read a = vals :=
  read_scatter _ a.buf a.d _ vals (buf_write h a vals) hn hl hb

/-- **write_frames_buffer.**  A write through a window of buffer `a.buf` leaves every other buffer as it was. -/
theorem write_frames_buffer (h : Heap) (a : Arr) (vals : List Int) (b : Nat) (hb : b ≠ a.buf) :
    (h.write a vals).buf b = h.buf b := by
  simp only [Heap.write, Heap.buf]
  rw [lookup_insert_ne _ _ _ _ hb]

/-- **write_frames_position.**  … and, inside its own buffer, every position outside the window. -/
theorem write_frames_position (h : Heap) (a : Arr) (vals : List Int) (q : Nat) (hq : q ∉ a.d.positions) :
    ((h.write a vals).buf a.buf).getD q 0 = (h.buf a.buf).getD q 0 := by
  rw [buf_write]
  exact scatter_getD_of_not_mem _ _ _ q hq

/-- **write_frames_disjoint_window.**  A window that shares no position with the written one reads the same
before and after (two tensors that do not share memory never see each other's in-place updates). -/
theorem write_frames_disjoint_window (h : Heap) (a c : Arr) (vals : List Int)
    (hd : c.buf ≠ a.buf ∨ ∀ p ∈ c.d.positions, p ∉ a.d.positions) :
    (h.write a vals).read c = h.read c := by
  simp only [Heap.read]
  by_cases hbuf : c.buf = a.buf
  · apply List.map_congr_left
    intro p hp
    rw [hbuf]
    exact write_frames_position h a vals p (hd.resolve_left (fun h1 => h1 hbuf) p hp)
  · rw [write_frames_buffer h a vals c.buf hbuf]

theorem read_length (h : Heap) (a : Arr) : (h.read a).length = size a.d.shape := by
  simp [Heap.read, Desc.positions]

theorem val_congr (h h' : Heap) (a : Arr) (hb : h'.buf a.buf = h.buf a.buf) : h'.val a = h.val a := by
  simp only [Heap.val, Heap.read, hb]

theorem read_contig_getD (h : Heap) (buf : Nat) (sh : Shape) (p : Nat) (hp : p < size sh) :
    (h.read ⟨buf, Desc.contig 0 sh⟩).getD p 0 = (h.buf buf).getD p 0 := by
  simp only [Heap.read]
  rw [positions_contig]
  simp only [List.map_map]
  rw [List.getD_eq_getElem?_getD, List.getElem?_map, List.getElem?_range hp]
  simp

theorem read_contig_whole (h : Heap) (buf : Nat) (sh : Shape) (hl : (h.buf buf).length = size sh) :
    h.read ⟨buf, Desc.contig 0 sh⟩ = h.buf buf :=
  gather_contig (h.buf buf) sh hl

theorem read_newArr (h : Heap) (v : Val) (hwf : v.2.length = size v.1) :
    (h.newArr v).1.read (h.newArr v).2 = v.2 := by
  have hb : (h.newArr v).1.buf h.next = v.2 := by rw [buf_newArr, if_pos rfl]
  exact (read_contig_whole _ h.next v.1 (by rw [hb, hwf])).trans hb

/-- a window of the copy of a C-contiguous array reads what the same window of the original reads -/
theorem read_window_of_copy (W h : Heap) (n buf : Nat) (sh : Shape) (dt : Desc)
    (hW : W.buf n = h.read ⟨buf, Desc.contig 0 sh⟩) (hin : ∀ p ∈ dt.positions, p < size sh) :
    W.read ⟨n, dt⟩ = h.read ⟨buf, dt⟩ := by
  simp only [Heap.read]
  apply List.map_congr_left
  intro p hp
  rw [show W.buf n = _ from hW, read_contig_getD h buf sh p (hin p hp)]

end MG.Eng
