import MG.Proofs.C13
import MG.Proofs.Lemmas.InPlaceSteps
/-!
# C04/C05/C13 — an in-place update on a tensor that owns its memory and has no live view

The whole `Tensor._in_place_op` of the engine model — prelude, `DuplicatingGraph` (one placeholder), copy of the base,
the guarded call writing into the copy, `ApplyMask` under a `where=` mask, mirroring — is evaluated once
(`owner_setup`) down to the NumPy-level statement `outWrite` on the operands' values.  The refinement theorems, the
single-assignment reading of the resulting graph and the no-trace theorem for a rejected statement are its branches.
Core Lean only.
-/
namespace MG.C04R
open MG.Eng MG.ND MG.C13 MG.C04V

theorem kept_write (h : Heap) (a : Arr) (vals : List Int) : ∀ t, ((h.write a vals).t t) = h.t t := fun _ => rfl
theorem next_write (h : Heap) (a : Arr) (vals : List Int) : (h.write a vals).next = h.next := rfl

/-- the heap in which the copy of the base is made: `DuplicatingGraph(x)` applied after the prelude -/
def dupH (h : Heap) (x : Nat) : Heap := reroute (phHeap (nullGrad (nullGrad h x) x) x) h.next x

/-- `DuplicatingGraph(x)` nulls the gradient the prelude has nulled already -/
theorem dupH_eq (h : Heap) (x : Nat) : dupH h x = mkPh (nullGrad h x) x none := by
  rw [dupH, nullGrad_idem]; rfl

/-- the placeholder `h.next` has `x`'s state; everything else is as `x.null_grad()` leaves it -/
theorem dupH_t (h : Heap) (x t : Nat) :
    (dupH h x).t t = if t = h.next then { (nullGrad h x).t x with base := none } else (nullGrad h x).t t := by
  rw [dupH_eq]
  split
  · rename_i e; subst e; exact mkPh_t_ph (nullGrad h x) x none
  · rename_i e; exact mkPh_t_ne (nullGrad h x) x none t e

/-- an operand, with `x` replaced by its placeholder, holds the array it held -/
theorem dupH_swap (h : Heap) (x i : Nat) (hi : i < h.next) :
    swapVar x h.next i < h.next + 1 ∧ ((dupH h x).t (swapVar x h.next i)).data = (h.t i).data := by
  rw [dupH_t]
  unfold swapVar
  by_cases e : i = x
  · subst e; simp
  · simp only [e, if_false, if_neg (Nat.ne_of_lt hi)]
    exact ⟨Nat.lt_succ_of_lt hi, nullGrad_data h x i⟩

theorem dupH_op (h : Heap) (x : Nat) (hx : x < h.next) (g : Nat) :
    (dupH h x).op g = if g ∈ (h.t x).ops then { h.op g with vars := (h.op g).vars.map (swapVar x h.next) } else h.op g := by
  rw [dupH_eq, mkPh_op (nullGrad h x) x none (Nat.ne_of_lt hx) g, nullGrad_ops]
  rfl

theorem dupH_next (h : Heap) (x : Nat) : (dupH h x).next = h.next + 1 := mkPh_next _ _ _

theorem dupH_bufs (h : Heap) (x : Nat) : (dupH h x).bufs = h.bufs := by
  rw [dupH, reroute_bufs]; rfl

theorem dupH_frame (h : Heap) (x : Nat) (hx : x < h.next) : Frame h.next [] h (dupH h x) :=
  dupH_eq h x ▸ (frame_nullGrad h.next h x).trans (frame_mkPh (nullGrad h x) x none (Nat.le_refl _) (Nat.ne_of_lt hx))

/-- the final heap of an in-place update on a tensor without views, written out -/
def finalH (H : Heap) (x p : Nat) (kind : Kind) (ids : List Nat) (vals : List Int) : Heap :=
  let r := outRes (copyH H x).1 kind (ids.map (swapVar x p)) (ids.map (swapVar x p)) (copyH H x).2 vals
  let h5 := r.1.modT r.2 ({ · with const := (H.t x).const })
  let h6 := mirror h5 x r.2
  { h6 with tens := h6.tens.filter fun q => q.1 ≠ r.2 }

/-- the final heap of an in-place update on a tensor without views, any operands -/
def finalHL (H : Heap) (x p : Nat) (kind : Kind) (inputs : List Operand) (vals : List Int) : Heap :=
  let w := wrapOperands (copyH H x).1 (inputs.map (phMap x p))
  let r := outRes w.1 kind (userIds (inputs.map (phMap x p))) w.2 (copyH H x).2 vals
  let h5 := r.1.modT r.2 ({ · with const := (H.t x).const })
  let h6 := mirror h5 x r.2
  { h6 with tens := h6.tens.filter fun q => q.1 ≠ r.2 }

theorem map_phMap_t (x p : Nat) (ids : List Nat) :
    (ids.map Operand.t).map (phMap x p) = (ids.map (swapVar x p)).map Operand.t := by
  simp [List.map_map, Function.comp_def, phMap]

/-- tensor-only operands are a special case -/
theorem finalH_eq (H : Heap) (x p : Nat) (kind : Kind) (ids : List Nat) (vals : List Int) :
    finalH H x p kind ids vals = finalHL H x p kind (ids.map Operand.t) vals := by
  unfold finalH finalHL
  rw [map_phMap_t, wrapOperands_t, userIds_t]

end MG.C04R

namespace MG.C04W
open MG.Eng MG.ND MG.C13 MG.C04R

/-- the final heap of a `where=`-masked in-place update on a tensor without views, any operands -/
def finalHLM (H : Heap) (x p : Nat) (kind : Kind) (inputs : List Operand) (vals : List Int) (m : Shape × List Bool) : Heap :=
  let w := wrapOperands (copyH H x).1 (inputs.map (phMap x p))
  let r := outRes w.1 kind (userIds (inputs.map (phMap x p))) w.2 (copyH H x).2 vals (some m)
  let h5 := r.1.modT r.2 ({ · with const := (H.t x).const })
  let a := outCore h5 (.applyMask m) [r.2, p] [r.2, p] (h5.t r.2).data
  let h6 := mirror a.1 x a.2
  { h6 with tens := h6.tens.filter fun q => q.1 ≠ a.2 }

end MG.C04W

namespace MG.C04R
open MG.Eng MG.ND MG.C13 MG.C04V MG.C04W

/-- `x` is a tensor that owns C-contiguous, writeable memory and has no live view -/
structure Owner (h : Heap) (roots : List Nat) (x : Nat) : Prop where
  lt : x < h.next
  base : (h.t x).base = none
  noViews : liveChildren h (liveSet h roots) x = []
  /-- the recorded view children (all dead: the model keeps their ids, the code's weak references have gone) collide
  neither with `x` nor with the id the placeholder will get: the walk over the graph follows the placeholder's list and
  `node?` matches tensor and placeholder ids alike -/
  dead : ∀ c ∈ (h.t x).vchildren, c ≠ x ∧ c ≠ h.next
  contig : (h.t x).data.d.isCContig = true
  writeable : h.ro.contains (h.t x).data.buf = false

/-- the values the guarded call sees, for well-formed operands: tensors (`x` through its placeholder) and literals -/
theorem owner_vals (h : Heap) (x : Nat) (inputs : List Operand) (hx : x < h.next) (hwf : ∀ o ∈ inputs, WFop h o) :
    let W := wrapOperands (copyH (dupH h x) x).1 (inputs.map (phMap x h.next))
    W.2.map (fun i => W.1.val (W.1.t i).data) = inputs.map (operandVal h) := by
  have hph : phMap x h.next = renameOp (swapVar x h.next) := funext fun o => by cases o <;> rfl
  obtain ⟨_, cN, cT, cB, _⟩ := copyH_spec (dupH h x) x
  have dN := dupH_next h x
  obtain ⟨r1, r2⟩ := rename_vals h (copyH (dupH h x) x).1 (swapVar x h.next) inputs hwf (by rw [cN, dN]; omega)
    (fun i hi => by
      rw [cN, dN, cT]
      exact ⟨Nat.lt_succ_of_lt (dupH_swap h x i hi).1, (dupH_swap h x i hi).2⟩)
    (fun b hb => (cB b (by rw [dN]; omega)).trans (by simp only [Heap.buf, dupH_bufs]))
  rw [hph]
  exact (wrap_vals _ _ r1).trans r2

/-- **`_in_place_op` on a tensor without live views, down to the guarded call**: the NumPy-level statement
`outWrite` on the operands' values decides; if it is rejected the old graph is restored on the heap that holds the
unused copy, otherwise the rest of `_in_place_op` runs on what `Guarded` describes.  (`hvals`: the variables of the
guarded call read the operands' values — `owner_vals`.) -/
theorem owner_setup (h : Heap) (roots : List Nat) (x : Nat) (kind : Kind) (inputs : List Operand)
    (wm : Option (Shape × List Bool)) (ho : Owner h roots x) (hlt : ∀ i, Operand.t i ∈ inputs → i < h.next)
    (hvals : let W := wrapOperands (copyH (dupH h x) x).1 (inputs.map (phMap x h.next))
      W.2.map (fun i => W.1.val (W.1.t i).data) = inputs.map (operandVal h)) :
    inPlaceOp h roots x kind inputs none wm =
      let W := wrapOperands (copyH (dupH h x) x).1 (inputs.map (phMap x h.next))
      match outWrite kind (inputs.map (operandVal h)) (h.t x).data.d.shape (h.read (h.t x).data) wm with
      | .error e => .error (e, reroute (copyH (dupH h x) x).1 x h.next)
      | .ok vals =>
        let R := outRes W.1 kind (userIds (inputs.map (phMap x h.next))) W.2 (copyH (dupH h x) x).2 vals wm
        mutateFinish (R.1.modT R.2 ({ · with const := ((dupH h x).t x).const })) (G1 x h.next) x true wm []
          (copyH (dupH h x) x).2 R.2 := by
  have hne : x ≠ h.next := Nat.ne_of_lt ho.lt
  have hnb : ((nullGrad h x).t x).base = none := by simp [ho.base]
  have hlc : liveChildren (nullGrad h x) (liveSet h roots) x = [] := by
    unfold liveChildren; rw [nullGrad_vchildren]; exact ho.noViews
  -- the tensor `x` in the duplicated heap, the copy, the placeholder
  have dx : (dupH h x).t x = (nullGrad h x).t x := by rw [dupH_t, if_neg hne]
  have dxd : ((dupH h x).t x).data = (h.t x).data := by rw [dx]; simp
  have dp : (dupH h x).t h.next = { (nullGrad h x).t x with base := none } := by rw [dupH_t, if_pos rfl]
  obtain ⟨cA, cN, cT, _, cR⟩ := copyH_spec (dupH h x) x
  have eW := wrap_ext (inputs.map (phMap x h.next)) (copyH (dupH h x) x).1
  have hro : (copyH (dupH h x) x).1.ro.contains ((dupH h x).t x).data.buf = false := by
    rw [dxd, (frame_copy (dupH h x) x (Nat.le_refl _)).ro, (dupH_frame h x ho.lt).ro]; exact ho.writeable
  -- what the kernel reads through the copy is what `x` read
  have hread : (wrapOperands (copyH (dupH h x) x).1 (inputs.map (phMap x h.next))).1.read (copyH (dupH h x) x).2
      = h.read (h.t x).data := by
    rw [cA, read_contig_whole _ _ _ (by rw [eW.buf _ (by rw [cN]; omega), cR, read_length]),
      eW.buf _ (by rw [cN]; omega), cR, dxd]
    simp only [Heap.read, Heap.buf, dupH_bufs]
  have hmap : inputs.map (renameOp (G1 x h.next).placeholderIfExists) = inputs.map (phMap x h.next) :=
    List.map_congr_left fun o ho' => by
      cases o with
      | t i => show Operand.t _ = Operand.t _; rw [G1_ph x h.next i (Nat.ne_of_lt (hlt i ho'))]
      | lit v => rfl
  have hp : Prepared h roots x x true (dupH h x) (G1 x h.next) (Desc.contig 0 (h.t x).data.d.shape) [] :=
    ⟨prelude_eq h _ x (by simp [ho.base]) (by simp [ho.base]), by rw [hnb]; rfl, by rw [hnb]; rfl,
      mkDupGraph_no_views (nullGrad h x) (liveSet h roots) x ho.lt hnb hlc, rfl, dxd ▸ ho.contig,
      ⟨_, G1_node_x x h.next⟩, by rw [inPlaceTarget_base _ _ x _ _ (G1_node_x x h.next) rfl, cA, dxd], rfl, hro⟩
  rw [inPlaceOp_prepared hp kind inputs wm (h.read (h.t x).data) (by rw [hmap]; exact hvals)
    (by rw [hmap, ← hread, cA, dxd]), hmap,
    restore_single _ x h.next (by rw [cT, dp]; simpa using ho.dead) (by rw [cT, dp]),
    show (copyH (dupH h x) x).2 = ⟨(dupH h x).next, Desc.contig 0 (h.t x).data.d.shape⟩ by rw [cA, dxd]]
  rfl

/-- **the common end of the owner theorems.**  `X` is the heap before the mirroring and `m` the temporary the public
tensor `x` takes over: `m` holds the written copy with `x`'s flag, and below the copy nothing moved since the
duplication.  Then `x` reads `vals`, keeps its flag, owns its memory; nothing that existed before the statement
changed; and the placeholder still has `x`'s (dead) view children, which is what the walk over the graph needs. -/
theorem owner_final (h : Heap) (x : Nat) (X : Heap) (m : Nat) (vals : List Int) (hx : x < h.next)
    (hvc : ∀ c ∈ (h.t x).vchildren, c ≠ x ∧ c ≠ h.next) (hm : (dupH h x).next ≤ m) (hX : Frame (dupH h x).next [] (dupH h x) X)
    (hmd : (X.t m).data = ⟨(dupH h x).next, Desc.contig 0 ((dupH h x).t x).data.d.shape⟩)
    (hmc : (X.t m).const = ((dupH h x).t x).const) (hmb : (X.t m).base = none)
    (hcopy : X.buf (dupH h x).next = scatter ((dupH h x).read ((dupH h x).t x).data)
      (Desc.contig 0 ((dupH h x).t x).data.d.shape).positions vals)
    (hvl : vals.length = size (h.t x).data.d.shape) :
    let F : Heap := adopt X x m
    recreateViews F ((G1 x h.next).dfs F) = .ok F ∧
    F.val (F.t x).data = ((h.t x).data.d.shape, vals) ∧ (F.t x).const = (h.t x).const ∧ (F.t x).base = none ∧
    (∀ b, b < h.next → F.buf b = h.buf b) ∧
    (∀ t, t ≠ x → t < h.next → (F.t t).data = (h.t t).data ∧ (F.t t).const = (h.t t).const) := by
  intro F
  have dN := dupH_next h x
  have dx : (dupH h x).t x = { h.t x with grad := none, viewGrad := none } := by
    rw [dupH_t, if_neg (Nat.ne_of_lt hx), nullGrad_t_self]
  rw [dN] at hm hX hmd hcopy
  rw [dx] at hmd hmc hcopy
  have hFx : F.t x = X.t m := by rw [t_adopt X x m x (by omega), if_pos rfl]
  have fr : Frame h.next [x] h F :=
    ((dupH_frame h x hx).trans (hX.mono (Nat.le_succ _) fun _ m => m)).trans
      ((frame_adopt X x m hm).mono (Nat.le_succ _) fun _ m => m)
  refine ⟨?_, ?_, hFx ▸ hmc, hFx ▸ hmb, fr.buf, fun t ht hl => ?_⟩
  · have := ((frame_adopt X x m hm).tens h.next (by omega) (by simp; omega)).vchildren
    rw [(hX.tens h.next (by omega) (by simp)).vchildren, dupH_t, if_pos rfl] at this
    rw [dfs_single F x h.next (by rw [this]; simpa using hvc),
      recreate_single]
  · have hb : F.buf (h.next + 1) = vals := hcopy.trans (scatter_whole _ _ _ (read_length _ _) hvl)
    simp only [Heap.val, hFx, hmd]
    rw [read_contig_whole F _ _ (by rw [hb, hvl]), hb]
    rfl
  · have := fr.tens t hl (by simp [ht])
    exact ⟨this.data, this.const⟩

/-- **an accepted statement on a tensor without live views**, given that the variables of the guarded call read the
operands' values (`hvals`): the update succeeds with the heap `finalHL`, in which `x` reads `vals`, keeps its flag and
owns its memory, and nothing that existed before the statement changed. -/
theorem owner_refines (h : Heap) (roots : List Nat) (x : Nat) (kind : Kind) (inputs : List Operand) (vals : List Int)
    (ho : Owner h roots x) (hlt : ∀ i, Operand.t i ∈ inputs → i < h.next)
    (hvals : let W := wrapOperands (copyH (dupH h x) x).1 (inputs.map (phMap x h.next))
      W.2.map (fun i => W.1.val (W.1.t i).data) = inputs.map (operandVal h))
    (hw : outWrite kind (inputs.map (operandVal h)) (h.t x).data.d.shape (h.read (h.t x).data) none = .ok vals)
    (hvl : vals.length = size (h.t x).data.d.shape) :
    ∃ h', inPlaceOp h roots x kind inputs = .ok h' ∧
      h' = finalHL (dupH h x) x h.next kind inputs vals ∧
      h'.val (h'.t x).data = ((h.t x).data.d.shape, vals) ∧
      (h'.t x).const = (h.t x).const ∧ (h'.t x).base = none ∧
      (∀ b, b < h.next → h'.buf b = h.buf b) ∧
      (∀ t, t ≠ x → t < h.next → (h'.t t).data = (h.t t).data ∧ (h'.t t).const = (h.t t).const) := by
  have hs := owner_setup h roots x kind inputs none ho hlt hvals
  rw [hw] at hs
  obtain ⟨h5, r, G, e⟩ : ∃ h5 r, Guarded (dupH h x) x _ kind (Desc.contig 0 ((dupH h x).t x).data.d.shape) vals none
        ((dupH h x).t x).const h5 r ∧
      finalHL (dupH h x) x h.next kind inputs vals = adopt h5 x r :=
    ⟨_, _, guarded_spec (dupH h x) x (inputs.map (phMap x h.next)) kind _ vals none _, rfl⟩
  obtain ⟨fR, f⟩ := owner_final h x h5 r vals ho.lt ho.dead (by rw [G.id]; have := G.above; omega) G.frame
    (by rw [G.mutant]) (by rw [G.mutant]) (by rw [G.mutant]) G.copy hvl
  rw [← e] at fR f
  exact ⟨_, hs.trans fR, rfl, f⟩

/-- **inplace_on_owner_refines_numpy_general.**  As `inplace_on_owner_refines_numpy`, for *any* operands — tensors
(the target itself included) and literals (ndarrays / Python scalars, which `Tensor._op` wraps as fresh constant
tensors): `x[key] = v`, `x op= v`, `ufunc(a, b, out=x)` on a tensor `x` that owns its C-contiguous, writeable
memory and has no live views.  If the NumPy-level statement (`outWrite` on the operands' values and `x`'s values)
yields `vals`, the update succeeds; the same tensor id `x` then reads `vals`, keeps its constant flag and owns its
memory; every buffer that existed before the statement is unchanged, and every other existing tensor keeps its
array and flag. -/
theorem inplace_on_owner_refines_numpy_general (h : Heap) (roots : List Nat) (x : Nat) (kind : Kind)
    (inputs : List Operand) (vals : List Int)
    (hx : x < h.next) (hbase : (h.t x).base = none)
    (hnov : liveChildren h (liveSet h roots) x = [])
    (hvc : ∀ c ∈ (h.t x).vchildren, c ≠ x ∧ c ≠ h.next)
    (hcc : (h.t x).data.d.isCContig = true)
    (hro : h.ro.contains (h.t x).data.buf = false)
    (hwf : ∀ o ∈ inputs, WFop h o) (hxbuf : (h.t x).data.buf < h.next)
    (hw : outWrite kind (inputs.map (operandVal h)) (h.t x).data.d.shape (h.read (h.t x).data) none = .ok vals)
    (hvl : vals.length = size (h.t x).data.d.shape) :
    ∃ h', inPlaceOp h roots x kind inputs = .ok h' ∧
      h' = finalHL (dupH h x) x h.next kind inputs vals ∧
      h'.val (h'.t x).data = ((h.t x).data.d.shape, vals) ∧
      (h'.t x).const = (h.t x).const ∧ (h'.t x).base = none ∧
      (∀ b, b < h.next → h'.buf b = h.buf b) ∧
      (∀ t, t ≠ x → t < h.next → (h'.t t).data = (h.t t).data ∧ (h'.t t).const = (h.t t).const) :=
  owner_refines h roots x kind inputs vals ⟨hx, hbase, hnov, hvc, hcc, hro⟩ (fun _ hi => (hwf _ hi).1)
    (owner_vals h x inputs hx hwf) hw hvl

/-- premises satisfiable, conclusion computed: `x[...] = 10` and `x *= [2, 3]` on the leaf of `C13.exHeap` -/
example :
    (∀ o ∈ [Operand.t 0, Operand.lit ([], [10])], WFop exHeap o) ∧ (exHeap.t 0).data.buf < exHeap.next ∧
    outWrite (.setitem (.basic [.ellipsis])) ([Operand.t 0, Operand.lit ([], [10])].map (operandVal exHeap))
      (exHeap.t 0).data.d.shape (exHeap.read (exHeap.t 0).data) none = .ok [10, 10] ∧
    (match inPlaceOp exHeap [0] 0 (.setitem (.basic [.ellipsis])) [.t 0, .lit ([], [10])] with
      | .ok h' => h'.val (h'.t 0).data == ([2], [10, 10]) && (h'.t 0).base.isNone
      | .error _ => false) = true ∧
    (match inPlaceOp exHeap [0] 0 .mul [.t 0, .lit ([2], [2, 3])] with
      | .ok h' => h'.val (h'.t 0).data == ([2], [6, 12])
      | .error _ => false) = true := by
  exact ⟨List.forall_mem_cons.mpr ⟨⟨by decide, by decide⟩, List.forall_mem_cons.mpr ⟨rfl, nofun⟩⟩, by decide, rfl, rfl,
    rfl⟩

/-- **inplace_on_owner_failure_leaves_no_trace.**  If the NumPy-level statement is rejected (`outWrite` fails:
bad index, shapes that do not broadcast, …), the in-place update on a tensor without live views raises that error
and leaves a heap in which every tensor that existed is exactly as `x.null_grad()` leaves it (value, flag, base,
creator, consumers, view children — only `x`'s stale gradient is gone), every buffer that existed is unchanged and
every op has exactly its old variables: the placeholder is no longer referenced by anything. -/
theorem inplace_on_owner_failure_leaves_no_trace (h : Heap) (roots : List Nat) (x : Nat) (kind : Kind)
    (inputs : List Operand) (e : Err)
    (hx : x < h.next) (hbase : (h.t x).base = none)
    (hnov : liveChildren h (liveSet h roots) x = [])
    (hvc : ∀ c ∈ (h.t x).vchildren, c ≠ x ∧ c ≠ h.next)
    (hcc : (h.t x).data.d.isCContig = true)
    (hro : h.ro.contains (h.t x).data.buf = false)
    (hwf : ∀ o ∈ inputs, WFop h o) (hxbuf : (h.t x).data.buf < h.next)
    (hfresh : ∀ f, h.next ∉ (h.op f).vars)
    (hw : outWrite kind (inputs.map (operandVal h)) (h.t x).data.d.shape (h.read (h.t x).data) none = .error e) :
    ∃ hf, inPlaceOp h roots x kind inputs = .error (e, hf) ∧
      (∀ t, t < h.next → hf.t t = (nullGrad h x).t t) ∧
      (∀ b, b < h.next → hf.buf b = h.buf b) ∧
      (∀ f, (hf.op f).vars = (h.op f).vars) := by
  have hs := owner_setup h roots x kind inputs none ⟨hx, hbase, hnov, hvc, hcc, hro⟩ (fun i hi => (hwf _ hi).1)
    (owner_vals h x inputs hx hwf)
  rw [hw] at hs
  obtain ⟨_, _, cT, cB, _⟩ := copyH_spec (dupH h x) x
  refine ⟨_, hs, fun t ht => ?_, fun b hb => ?_, fun f => ?_⟩
  · rw [reroute_t, cT, dupH_t, if_neg (Nat.ne_of_lt ht)]
  · simp only [Heap.buf, reroute_bufs]
    exact (cB b (by rw [dupH_next]; omega)).trans (by simp only [Heap.buf, dupH_bufs])
  · exact reroute_back_vars (nullGrad h x) (copyH (dupH h x) x).1 x none (Nat.ne_of_lt hx) hfresh
      (by rw [cT, dupH_eq, mkPh_t_ph (nullGrad h x) x none])
      (fun f => by rw [copyH_op, dupH_eq]) f

/-- **the result for tensor operands, read off `finalH`**: with no literal to wrap, the copy is buffer `h.next + 1`, the
recorded op `h.next + 2` and the mutant `h.next + 3`; no other id is touched at all (not only those below `h.next`). -/
theorem finalH_spec (h : Heap) (x : Nat) (kind : Kind) (ids : List Nat) (vals : List Int) (hx : x < h.next) :
    let F := finalH (dupH h x) x h.next kind ids vals
    (F.t x).data = ⟨h.next + 1, Desc.contig 0 (h.t x).data.d.shape⟩ ∧ (F.t x).creator = some (h.next + 2) ∧
    (∀ g, F.op g = if g = h.next + 2 then { kind := kind, vars := ids.map (swapVar x h.next) } else (dupH h x).op g) ∧
    (∀ b, b ≠ h.next + 1 → F.buf b = h.buf b) ∧
    (∀ t, t ≠ x → t ≠ h.next + 3 → Same4 (F.t t) ((dupH h x).t t)) := by
  intro F
  have dN := dupH_next h x
  have dxd : ((dupH h x).t x).data = (h.t x).data := by
    rw [dupH_t, if_neg (Nat.ne_of_lt hx)]; exact nullGrad_data h x x
  obtain ⟨_, cN, cT, cB, _⟩ := copyH_spec (dupH h x) x
  obtain ⟨h5, r, G, e⟩ : ∃ h5 r, Guarded (dupH h x) x ((copyH (dupH h x) x).1, ids.map (swapVar x h.next)) kind
        (Desc.contig 0 ((dupH h x).t x).data.d.shape) vals none ((dupH h x).t x).const h5 r ∧
      F = adopt h5 x r := by
    have G := guarded_spec (dupH h x) x ((ids.map Operand.t).map (phMap x h.next)) kind
      (Desc.contig 0 ((dupH h x).t x).data.d.shape) vals none ((dupH h x).t x).const
    rw [map_phMap_t, wrapOperands_t, userIds_t] at G
    exact ⟨_, _, G, rfl⟩
  have hr : r = h.next + 3 := by rw [G.id]; show (copyH (dupH h x) x).1.next + 1 = _; rw [cN, dN]
  have hFt : ∀ t, t ≠ r → F.t t = if t = x then h5.t r else h5.t t := fun t ht => e ▸ t_adopt h5 x r t ht
  refine ⟨?_, ?_, fun g => ?_, fun b hb => ?_, fun t h1 h2 => ?_⟩
  · rw [hFt x (by omega), if_pos rfl, G.mutant, dN, dxd]
  · rw [hFt x (by omega), if_pos rfl, G.mutant]; show some (copyH (dupH h x) x).1.next = _; rw [cN, dN]
  · have : F.op g = h5.op g := by rw [e]; rfl
    rw [this, G.op g]; show (if g = (copyH (dupH h x) x).1.next then _ else _) = _; rw [cN, dN]
  · have : F.buf b = h5.buf b := by rw [e]; rfl
    rw [this]; simp only [Heap.buf, G.bufs]
    exact (write_frames_buffer _ _ vals b (by rw [dN]; exact hb)).trans
      ((cB b (by rw [dN]; exact hb)).trans (by simp only [Heap.buf, dupH_bufs]))
  · rw [hFt t (hr ▸ h2), if_neg h1]
    exact (G.tens t (hr ▸ h2)).trans (by rw [show (copyH (dupH h x) x).1.t t = _ from cT t]; exact Same4.rfl' _)

/-- **inplace_on_owner_refines_numpy.**  An in-place update `op(…, out=x)` / `x[key] = v` / `x op= v` on a
tensor `x` that owns its (C-contiguous) memory and has no live views, with tensor operands `ids` (which may
include `x` itself), succeeds exactly with NumPy's result: if writing the kernel's values into an array holding
`x`'s values gives `vals` (`outWrite`, the NumPy-level semantics of the statement), then `_in_place_op` returns a
heap in which the *same tensor id* `x` reads `vals`, keeps its constant flag and still owns its memory; no buffer
that existed before the statement was written (every placeholder, and every other tensor, still reads what it
read before); every other tensor keeps its array and its flag. -/
theorem inplace_on_owner_refines_numpy (h : Heap) (roots : List Nat) (x : Nat) (kind : Kind) (ids : List Nat)
    (vals : List Int)
    (hx : x < h.next) (hbase : (h.t x).base = none)
    (hnov : liveChildren h (liveSet h roots) x = [])
    (hvc : ∀ c ∈ (h.t x).vchildren, c ≠ x ∧ c ≠ h.next)
    (hcc : (h.t x).data.d.isCContig = true)
    (hro : h.ro.contains (h.t x).data.buf = false)
    (hids : ∀ i ∈ ids, i < h.next)
    (hbufs : ∀ i ∈ ids, (h.t i).data.buf ≠ h.next + 1) (hxbuf : (h.t x).data.buf ≠ h.next + 1)
    (hw : outWrite kind (ids.map fun i => h.val (h.t i).data) (h.t x).data.d.shape (h.read (h.t x).data) none
            = .ok vals)
    (hvl : vals.length = size (h.t x).data.d.shape) :
    ∃ h', inPlaceOp h roots x kind (ids.map Operand.t) = .ok h' ∧
      h' = finalH (dupH h x) x h.next kind ids vals ∧
      h'.val (h'.t x).data = ((h.t x).data.d.shape, vals) ∧
      (h'.t x).const = (h.t x).const ∧ (h'.t x).base = none ∧
      (∀ b, b ≠ h.next + 1 → h'.buf b = h.buf b) ∧
      (∀ t, t ≠ x → t ≠ h.next → t ≠ h.next + 3 →
        (h'.t t).data = (h.t t).data ∧ (h'.t t).const = (h.t t).const) := by
  have dN := dupH_next h x
  obtain ⟨_, _, cT, cB, _⟩ := copyH_spec (dupH h x) x
  have hov : (ids.map Operand.t).map (operandVal h) = ids.map fun i => h.val (h.t i).data := by
    simp [List.map_map, Function.comp_def, operandVal]
  -- the operands' arrays are untouched by the duplication and the copy (their buffers are not the copy's)
  have hvals : (let W := wrapOperands (copyH (dupH h x) x).1 ((ids.map Operand.t).map (phMap x h.next))
      W.2.map (fun i => W.1.val (W.1.t i).data) = (ids.map Operand.t).map (operandVal h)) := by
    rw [map_phMap_t, wrapOperands_t, hov]
    show (ids.map (swapVar x h.next)).map _ = _
    rw [List.map_map]
    apply List.map_congr_left
    intro i hi
    show (copyH (dupH h x) x).1.val ((copyH (dupH h x) x).1.t _).data = _
    rw [cT, (dupH_swap h x i (hids i hi)).2, val_congr (dupH h x) _ _ (cB _ (by rw [dN]; exact hbufs i hi))]
    exact val_congr h _ _ (by simp only [Heap.buf, dupH_bufs])
  obtain ⟨h', hop, e, f1, f2, f3, _⟩ := owner_refines h roots x kind (ids.map Operand.t) vals
    ⟨hx, hbase, hnov, hvc, hcc, hro⟩
    (fun i hi => by obtain ⟨j, hj, e⟩ := List.mem_map.mp hi; injection e with e; exact e ▸ hids j hj) hvals
    (by rw [hov]; exact hw) hvl
  -- with no literal among the operands the frame is sharper: `finalH_spec`
  rw [← finalH_eq] at e
  obtain ⟨_, _, _, s4, s5⟩ := finalH_spec h x kind ids vals hx
  rw [← e] at s4 s5
  refine ⟨h', hop, e, f1, f2, f3, s4, fun t h1 h2 h3 => ?_⟩
  have := s5 t h1 h3
  rw [dupH_t, if_neg h2] at this
  exact ⟨this.data.trans (nullGrad_data h x t), this.const.trans (nullGrad_const h x t)⟩

/-- the premises are satisfiable, and the conclusion is what the executable model computes: `x += x` on the leaf of
`C13.exHeap` (values [3, 4], holding a gradient, consumed by one op) -/
example :
    (0 : Nat) < exHeap.next ∧ (exHeap.t 0).base = none ∧ liveChildren exHeap (liveSet exHeap [0]) 0 = [] ∧
    (exHeap.t 0).data.d.isCContig = true ∧
    outWrite .add ([0, 0].map fun i => exHeap.val (exHeap.t i).data) (exHeap.t 0).data.d.shape
      (exHeap.read (exHeap.t 0).data) none = .ok [6, 8] ∧
    (match inPlaceOp exHeap [0] 0 .add [.t 0, .t 0] with
      | .ok h' => h'.val (h'.t 0).data == ([2], [6, 8]) && (h'.t 0).base.isNone && !(h'.t 0).const
      | .error _ => false) = true := by
  refine ⟨by decide, rfl, rfl, rfl, rfl, rfl⟩

/-- **inplace_on_owner_is_ssa_renaming.**  The graph an in-place update leaves behind *is* the single-assignment
form of the statement `x' = kernel(operands[x ↦ x_old])`: the public tensor `x` is now the output of one new op of
the given kind whose inputs are the operands with `x` replaced by the placeholder `p` (a fresh id); every op that
consumed `x` before consumes `p` instead and no other op changed; and `p` reads exactly what `x` read before the
statement.  (So backward through the updated graph is backward through the functional program — `C01.backward_sound`
applies to it unchanged.)  `F` is the heap `_in_place_op` returns: the conjunct `h' = finalH …` of
`inplace_on_owner_refines_numpy`. -/
theorem inplace_on_owner_is_ssa_renaming (h : Heap) (x : Nat) (kind : Kind) (ids : List Nat) (vals : List Int)
    (hx : x < h.next) (hxbuf : (h.t x).data.buf ≠ h.next + 1)
    (hvl : vals.length = size (h.t x).data.d.shape) :
    let p := h.next
    let F := finalH (dupH h x) x p kind ids vals
    (F.t x).creator = some (h.next + 2) ∧
    (F.op (h.next + 2)).kind = kind ∧ (F.op (h.next + 2)).vars = ids.map (swapVar x p) ∧
    (∀ g, g ≠ h.next + 2 → (F.op g).vars =
      if g ∈ (h.t x).ops then (h.op g).vars.map (swapVar x p) else (h.op g).vars) ∧
    F.val (F.t p).data = h.val (h.t x).data := by
  intro p F
  obtain ⟨_, s2, s3, s4, s5⟩ := finalH_spec h x kind ids vals hx
  refine ⟨s2, by rw [s3, if_pos rfl], by rw [s3, if_pos rfl], fun g hg => ?_, ?_⟩
  · rw [s3, if_neg hg, dupH_op h x hx g]; split <;> rfl
  · have hp := (s5 p (Ne.symm (Nat.ne_of_lt hx)) (by omega)).data
    rw [dupH_t, if_pos rfl] at hp
    rw [hp, show ({ (nullGrad h x).t x with base := none } : Tens).data = (h.t x).data by simp]
    exact val_congr h F (h.t x).data (s4 _ hxbuf)

end MG.C04R

namespace MG.C04W
open MG.Eng MG.ND MG.C13 MG.C04R MG.C04V

/-- **inplace_on_owner_where_refines_numpy.**  `ufunc(a, b, out=x, where=mask)` on a tensor `x` that owns its
C-contiguous, writeable memory and has no live views, for *any* operands: if the NumPy-level statement with the mask
(`outWrite … (some m)`: the kernel's values where the mask is set, `x`'s old values elsewhere) yields `vals`, the update
succeeds; the same tensor id `x` then reads `vals`, keeps its constant flag and owns its memory; every buffer that
existed before is unchanged and every other existing tensor keeps its array and flag. -/
theorem inplace_on_owner_where_refines_numpy (h : Heap) (roots : List Nat) (x : Nat) (kind : Kind)
    (inputs : List Operand) (vals : List Int) (m : Shape × List Bool)
    (hx : x < h.next) (hbase : (h.t x).base = none)
    (hnov : liveChildren h (liveSet h roots) x = [])
    (hvc : ∀ c ∈ (h.t x).vchildren, c ≠ x ∧ c ≠ h.next)
    (hcc : (h.t x).data.d.isCContig = true)
    (hro : h.ro.contains (h.t x).data.buf = false)
    (hwf : ∀ o ∈ inputs, WFop h o) (hxbuf : (h.t x).data.buf < h.next)
    (hw : outWrite kind (inputs.map (operandVal h)) (h.t x).data.d.shape (h.read (h.t x).data) (some m) = .ok vals)
    (hvl : vals.length = size (h.t x).data.d.shape) :
    ∃ h', inPlaceOp h roots x kind inputs none (some m) = .ok h' ∧
      h' = finalHLM (dupH h x) x h.next kind inputs vals m ∧
      h'.val (h'.t x).data = ((h.t x).data.d.shape, vals) ∧
      (h'.t x).const = (h.t x).const ∧ (h'.t x).base = none ∧
      (∀ b, b < h.next → h'.buf b = h.buf b) ∧
      (∀ t, t ≠ x → t < h.next → (h'.t t).data = (h.t t).data ∧ (h'.t t).const = (h.t t).const) := by
  have hs := owner_setup h roots x kind inputs (some m) ⟨hx, hbase, hnov, hvc, hcc, hro⟩ (fun i hi => (hwf _ hi).1)
    (owner_vals h x inputs hx hwf)
  rw [hw] at hs
  have dN := dupH_next h x
  obtain ⟨h5, r, G, e5, er⟩ : ∃ h5 r, Guarded (dupH h x) x _ kind (Desc.contig 0 ((dupH h x).t x).data.d.shape) vals
        (some m) ((dupH h x).t x).const h5 r ∧ _ = h5 ∧ _ = r :=
    ⟨_, _, guarded_spec (dupH h x) x (inputs.map (phMap x h.next)) kind _ vals (some m) _, rfl, rfl⟩
  -- `ApplyMask(mutant, placeholder)`: a second temporary `A.2` around the mutant's array
  obtain ⟨a1, a2, a3, _, a5, _, _⟩ := outCore_spec h5 (.applyMask m) [r, h.next] [r, h.next] (h5.t r).data none
  have aF := frame_outCore (n := (dupH h x).next) h5 (.applyMask m) [r, h.next] [r, h.next] (h5.t r).data none
    (by rw [G.next]; have := G.above; omega)
  have eF : finalHLM (dupH h x) x h.next kind inputs vals m =
      (let A := outCore h5 (.applyMask m) [r, h.next] [r, h.next] (h5.t r).data
       adopt A.1 x A.2) := by
    rw [← e5, ← er]; rfl
  generalize outCore h5 (.applyMask m) [r, h.next] [r, h.next] (h5.t r).data = A at a1 a2 a3 a5 aF eF
  -- the flag the mask op infers: the mutant's and the placeholder's, both `x`'s
  have hpc : (h5.t h.next).const = ((dupH h x).t x).const := by
    rw [(G.frame.tens h.next (by omega) (by simp)).const, dupH_t, dupH_t, if_pos rfl, if_neg (Nat.ne_of_lt hx)]
  have hAm : A.1.t A.2 =
      { data := (h5.t r).data, const := ((dupH h x).t x).const, creator := some h5.next } := by
    rw [a1, a5]; simp [hpc, G.mutant]
  obtain ⟨fR, f⟩ := owner_final h x A.1 A.2 vals hx hvc (by rw [a1, G.next]; have := G.above; omega) (G.frame.trans aF)
    (by rw [hAm, G.mutant]) (by rw [hAm]) (by rw [hAm]) (by simp only [Heap.buf, a3]; exact G.copy) hvl
  rw [← eF] at fR f
  refine ⟨_, ?_, rfl, f⟩
  rw [hs]
  simp only [mutateFinish, G1_node_x, withHeap, opStep_applyMask]
  exact fR

/-- premises satisfiable, conclusion computed: `np.multiply(x, [2, 3], out=x, where=[True, False])` on the leaf
`x = [3, 4]` of `C13.exHeap` leaves `x = [6, 4]` -/
example :
    (∀ o ∈ [Operand.t 0, Operand.lit ([2], [2, 3])], WFop exHeap o) ∧ (exHeap.t 0).data.buf < exHeap.next ∧
    outWrite .mul ([Operand.t 0, Operand.lit ([2], [2, 3])].map (operandVal exHeap))
      (exHeap.t 0).data.d.shape (exHeap.read (exHeap.t 0).data) (some ([2], [true, false])) = .ok [6, 4] ∧
    (match inPlaceOp exHeap [0] 0 .mul [.t 0, .lit ([2], [2, 3])] none (some ([2], [true, false])) with
      | .ok h' => h'.val (h'.t 0).data == ([2], [6, 4]) && (h'.t 0).base.isNone
      | .error _ => false) = true := by
  exact ⟨List.forall_mem_cons.mpr ⟨⟨by decide, by decide⟩, List.forall_mem_cons.mpr ⟨rfl, nofun⟩⟩, by decide, rfl, rfl⟩

end MG.C04W

namespace MG.C10F
open MG.Eng MG.C13

/-- the target keeps its flag under either explicit value: computed on `x = [3, 4]` of `C13.exHeap` (non-constant) -/
example :
    (match inPlaceOp exHeap [0] 0 .mul [.t 0, .lit ([2], [2, 3])] (some true) none with
      | .ok h' => (h'.t 0).const == (exHeap.t 0).const && h'.val (h'.t 0).data == ([2], [6, 12])
      | .error _ => false) = true ∧
    (match inPlaceOp exHeap [0] 0 .mul [.t 0, .lit ([2], [2, 3])] (some false) none with
      | .ok h' => (h'.t 0).const == (exHeap.t 0).const
      | .error _ => false) = true := ⟨rfl, rfl⟩

end MG.C10F
