import MG.Core.Linear
import Mathlib.Tactic.Ring

/-! Laws of `MG/Core/Linear.lean`: lengths, `dot` of appends and updates (by `length_eq_induction`, the induction on two
lists of equal length), the adjointness of scatter-add and of the transposed matrix against `dot`
(`dot_scatterAddInto`, `dot_applyMatTInto`), and `eq_of_dot_eq` (a vector is determined by its dot products). -/
namespace MG.Lin

variable {R : Type} [CommSemiring R]

@[simp] theorem dot_nil_left (x : List R) : dot ([] : List R) x = 0 := by
  cases x <;> rfl

@[simp] theorem dot_nil_right (x : List R) : dot x ([] : List R) = 0 := by
  cases x <;> rfl

@[simp] theorem dot_cons (a b : R) (as bs : List R) : dot (a :: as) (b :: bs) = a * b + dot as bs := rfl

@[simp] theorem length_zeros (n : Nat) : (zeros n : List R).length = n := by
  simp [zeros]

theorem zeros_succ (n : Nat) : (zeros (n + 1) : List R) = 0 :: zeros n := by
  simp [zeros, List.replicate_succ]

@[simp] theorem dot_zeros_left (n : Nat) (x : List R) : dot (zeros n) x = 0 := by
  induction n generalizing x with
  | zero => simp [zeros]
  | succ n ih =>
    cases x with
    | nil => simp
    | cons b bs => simp [zeros_succ, ih]

theorem dot_comm (a b : List R) : dot a b = dot b a := by
  induction a generalizing b with
  | nil => simp
  | cons x xs ih =>
    cases b with
    | nil => simp
    | cons y ys => simp [ih ys, mul_comm]

@[simp] theorem dot_zeros_right (n : Nat) (x : List R) : dot x (zeros n) = 0 := by
  rw [dot_comm, dot_zeros_left]

@[simp] theorem length_addAt (acc : List R) (i : Nat) (v : R) : (addAt acc i v).length = acc.length := by
  induction acc generalizing i with
  | nil => rfl
  | cons a as ih => cases i <;> simp [addAt, ih]

/-- Induction on two lists of equal length: both empty, or both a head and tails of equal length. -/
theorem length_eq_induction {α β : Type} {P : ∀ (a : List α) (b : List β), a.length = b.length → Prop}
    (nil : P [] [] rfl)
    (cons : ∀ x xs y ys (h : xs.length = ys.length), P xs ys h → P (x :: xs) (y :: ys) (congrArg (· + 1) h)) :
    ∀ a b h, P a b h
  | [], [], _ => nil
  | x :: xs, y :: ys, h => cons x xs y ys (Nat.succ.inj h) (length_eq_induction nil cons xs ys _)

theorem dot_addAt (acc x : List R) (i : Nat) (v : R) (h : acc.length = x.length) :
    dot (addAt acc i v) x = dot acc x + v * x.getD i 0 := by
  induction acc, x, h using length_eq_induction generalizing i with
  | nil => simp [addAt]
  | cons a as b bs _ ih =>
    cases i with
    | zero => simp only [addAt, dot_cons, List.getD_cons_zero]; ring
    | succ i => simp only [addAt, dot_cons, List.getD_cons_succ, ih i]; ring

@[simp] theorem length_scatterAddInto (acc : List R) (φ : List Nat) (g : List R) :
    (scatterAddInto acc φ g).length = acc.length := by
  fun_induction scatterAddInto acc φ g with
  | case1 acc i φ v g ih => rw [ih, length_addAt]
  | case2 acc φ g _ => rfl

@[simp] theorem length_scatterAdd (φ : List Nat) (n : Nat) (g : List R) : (scatterAdd φ n g).length = n := by
  simp [scatterAdd]

theorem dot_scatterAddInto (acc x : List R) (φ : List Nat) (g : List R) (h : acc.length = x.length) :
    dot (scatterAddInto acc φ g) x = dot acc x + dot g (gather φ x) := by
  induction φ generalizing acc g with
  | nil => cases g <;> simp [scatterAddInto, gather]
  | cons i φ ih =>
    cases g with
    | nil => simp [scatterAddInto]
    | cons v g =>
      have := ih (addAt acc i v) g (by simpa using h)
      simp only [scatterAddInto, this, dot_addAt acc x i v h, gather, List.map_cons, dot_cons]
      ring

@[simp] theorem length_vadd (a b : List R) : (vadd a b).length = min a.length b.length := by
  simp [vadd]

@[simp] theorem length_smul (c : R) (a : List R) : (smul c a).length = a.length := by
  simp [smul]

/-- `vadd` truncates to the shorter summand and `dot` to the shorter factor: only the summands need equal length -/
theorem dot_vadd (a b x : List R) (h : a.length = b.length) : dot (vadd a b) x = dot a x + dot b x := by
  induction a, b, h using length_eq_induction generalizing x with
  | nil => simp [vadd]
  | cons a as b bs _ ih =>
    cases x with
    | nil => simp
    | cons y ys =>
      simp only [vadd, List.zipWith_cons_cons, dot_cons] at ih ⊢
      rw [ih]; ring

theorem dot_smul (c : R) (a x : List R) : dot (smul c a) x = c * dot a x := by
  induction a generalizing x with
  | nil => simp [smul]
  | cons a as ih =>
    cases x with
    | nil => simp
    | cons y ys =>
      simp only [smul, List.map_cons, dot_cons] at ih ⊢
      rw [ih]; ring

theorem vadd_zeros_left (y : List R) : vadd (zeros y.length) y = y := by
  induction y with
  | nil => simp [vadd, zeros]
  | cons a as ih =>
    simp only [List.length_cons, zeros_succ, vadd, List.zipWith_cons_cons, zero_add] at ih ⊢
    rw [ih]

theorem length_applyMatTInto (n : Nat) (acc : List R) (A : List (List R)) (g : List R) (hacc : acc.length = n)
    (hA : ∀ row ∈ A, row.length = n) : (applyMatTInto acc A g).length = n := by
  fun_induction applyMatTInto acc A g with
  | case1 acc row A gi g ih =>
    obtain ⟨hr, hA'⟩ := List.forall_mem_cons.mp hA
    exact ih (by simp [hacc, hr]) hA'
  | case2 acc A g _ => exact hacc

theorem length_applyMatT (A : List (List R)) (n : Nat) (g : List R) (hA : ∀ row ∈ A, row.length = n) :
    (applyMatT A n g).length = n :=
  length_applyMatTInto n _ A g (length_zeros n) hA

theorem dot_applyMatTInto (acc x : List R) (A : List (List R)) (g : List R) (hacc : acc.length = x.length)
    (hA : ∀ row ∈ A, row.length = x.length) :
    dot (applyMatTInto acc A g) x = dot acc x + dot g (applyMat A x) := by
  induction A generalizing acc g with
  | nil => cases g <;> simp [applyMatTInto, applyMat]
  | cons row A ih =>
    cases g with
    | nil => simp [applyMatTInto]
    | cons gi g =>
      obtain ⟨hr, hA'⟩ := List.forall_mem_cons.mp hA
      rw [applyMatTInto, ih _ g (by simp [hacc, hr]) hA', dot_vadd _ _ _ (by simp [hacc, hr]), dot_smul]
      simp only [applyMat, List.map_cons, dot_cons]
      ring

theorem eq_of_dot_eq (n : Nat) (h h' : List R) (hl : h.length = n) (hl' : h'.length = n)
    (H : ∀ x : List R, x.length = n → dot h x = dot h' x) : h = h' := by
  subst hl'
  induction h, h', hl using length_eq_induction with
  | nil => rfl
  | cons a as b bs _ ih =>
    have hab : a = b := by simpa using H (1 :: zeros bs.length) (by simp)
    have htl : as = bs := ih fun x hx => by simpa using H (0 :: x) (by simp [hx])
    rw [hab, htl]

theorem dot_set (h a : List R) (i : Nat) (v : R) (hl : h.length = a.length) :
    dot h (a.set i v) = dot (h.set i 0) a + h.getD i 0 * v := by
  induction h, a, hl using length_eq_induction generalizing i with
  | nil => simp
  | cons x xs y ys _ ih =>
    cases i with
    | zero => simp only [List.set_cons_zero, dot_cons, List.getD_cons_zero]; ring
    | succ i => simp only [List.set_cons_succ, dot_cons, ih i, List.getD_cons_succ]; ring

theorem dot_append (a b c d : List R) (h : a.length = c.length) :
    dot (a ++ b) (c ++ d) = dot a c + dot b d := by
  induction a, c, h using length_eq_induction with
  | nil => simp
  | cons x xs y ys _ ih => simp only [List.cons_append, dot_cons, ih, add_assoc]

@[simp] theorem length_gather (φ : List Nat) (x : List R) : (gather φ x).length = φ.length := by
  simp [gather]

end MG.Lin
