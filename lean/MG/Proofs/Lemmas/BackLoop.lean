import MG.Proofs.Lemmas.Heap
import MG.Proofs.Lemmas.Adjoint
import Mathlib.Algebra.Group.Pi.Basic
/-!
The back-propagation loop of the engine model (`MG.Eng.backLoop`, over `Int` arrays).  Two things are proved about
it: an invariant rule (`backLoop_inv`: the gradient map changes by `accum` only, so what every accumulation
preserves holds of the result, completed or interrupted), and that a completed run is an instance of the abstract
reverse accumulation `MG.Adj.run` over the edge list read off the heap (`backLoop_run`).
-/
namespace MG.Eng
open MG.Adj MG.ND

/-- gradients as functions: flat index ↦ value (0 outside the array) -/
abbrev GF := Nat → Int

def toFn (v : Val) : GF := fun i => v.2.getD i 0
def ofFn (sh : Shape) (g : GF) : Val := (sh, (List.range (size sh)).map g)
def shapeOf (h : Heap) (t : Nat) : Shape := (h.t t).data.d.shape

/-- the edge "output `c` of op `f` → its variable number `i`", with the VJP the code applies
(`backward_var`, where-mask, `reduce_broadcast`) as its linear map.  A failing `contribution` counts as 0: `backLoop_run`
speaks of completed runs only, in which none fails -/
def edgeOf (h : Heap) (c f i : Nat) : Edge GF :=
  { c := c, t := (h.op f).vars.getD i 0,
    vjp := fun g => match contribution h (h.op f) i (ofFn (shapeOf h c) g) with
      | .ok bg => toFn bg
      | .error _ => 0 }

def nonConstIdx (h : Heap) (f : Nat) : List Nat :=
  (List.range (h.op f).vars.length).filter fun i => !(h.t ((h.op f).vars.getD i 0)).const

def edgesOfNode (h : Heap) (c : Nat) : List (Edge GF) :=
  match (h.t c).creator with
  | none => []
  | some f => (nonConstIdx h f).map (edgeOf h c f)

def edges (h : Heap) (topo : List Nat) : List (Edge GF) := topo.flatMap (edgesOfNode h)

def absG (gr : GMap) : Nat → GF := fun t =>
  match lookup t gr with
  | some v => toFn v
  | none => 0

/-- every stored gradient is an array of its tensor's shape -/
def WFG (h : Heap) (gr : GMap) : Prop :=
  ∀ t v, lookup t gr = some v → v.1 = shapeOf h t ∧ v.2.length = size (shapeOf h t)

theorem getD_range_map (n : Nat) (f : Nat → Int) (i : Nat) :
    ((List.range n).map f).getD i 0 = if i < n then f i else 0 := by
  by_cases hi : i < n <;> simp [List.getD, hi]

theorem toFn_addVal (a b : Val) : toFn (addVal a b) = toFn a + toFn b := by
  funext i
  simp only [toFn, addVal, Pi.add_apply, getD_range_map]
  split
  · rfl
  · rename_i hi
    have h1 : a.2.length ≤ i := by omega
    have h2 : b.2.length ≤ i := by omega
    simp [List.getD, List.getElem?_eq_none h1, List.getElem?_eq_none h2]

theorem ofFn_toFn (sh : Shape) (v : Val) (h1 : v.1 = sh) (h2 : v.2.length = size sh) :
    ofFn sh (toFn v) = v := by
  obtain ⟨s, l⟩ := v
  simp only at h1 h2
  subst h1
  simp only [ofFn, Prod.mk.injEq, true_and]
  apply List.ext_getElem
  · simp [h2]
  · intro i hi1 hi2
    simp [toFn, List.getD, hi2]

theorem lookup_accum (gr : GMap) (v t : Nat) (bg : Val) :
    lookup t (accum gr v bg) =
      if t = v then some (match lookup v gr with | none => bg | some old => addVal old bg) else lookup t gr := by
  unfold accum
  by_cases e : t = v
  · subst e; split <;> simp [lookup_insert_self, *]
  · split <;> simp [lookup_insert_ne _ _ _ _ e, e]

theorem absG_accum (gr : GMap) (v : Nat) (bg : Val) :
    absG (accum gr v bg) = fun t => absG gr t + (if v = t then toFn bg else 0) := by
  funext t
  simp only [absG, lookup_accum]
  by_cases e : t = v
  · subst e; cases lookup t gr <;> simp [toFn_addVal]
  · simp [e, Ne.symm e]

theorem wfg_accum (h : Heap) (gr : GMap) (v : Nat) (bg : Val) (hw : WFG h gr)
    (hb : bg.1 = shapeOf h v ∧ bg.2.length = size (shapeOf h v)) : WFG h (accum gr v bg) := by
  intro t x hx
  rw [lookup_accum] at hx
  split at hx
  · subst t
    cases Option.some.inj hx
    cases hl : lookup v gr with
    | none => exact hb
    | some old =>
      have ho := hw v old hl
      exact ⟨ho.1, by simp only [addVal, List.length_map, List.length_range, ho.2, hb.2, Nat.max_self]⟩
  · exact hw t x hx

theorem lookup_seed {L t : Nat} {g v : Val} (hv : lookup t [(L, g)] = some v) : t = L ∧ v = g := by
  simp only [lookup] at hv
  split at hv
  · exact ⟨(‹L = t›).symm, (Option.some.inj hv).symm⟩
  · cases hv

theorem wfg_seed (h : Heap) (L : Nat) (g : Val) (hg : g.1 = shapeOf h L ∧ g.2.length = size (shapeOf h L)) :
    WFG h [(L, g)] := fun _ _ hv => by
  obtain ⟨rfl, rfl⟩ := lookup_seed hv
  exact hg

theorem postVjp_wf (o : OpRec) (sh : Shape) (bg r : Val) (hr : postVjp o sh bg = .ok r) :
    r.1 = sh ∧ r.2.length = size sh := by
  unfold postVjp reduceTo at hr
  repeat' split at hr
  all_goals cases hr
  assumption

theorem contribution_wf (h : Heap) (o : OpRec) (i : Nat) (g r : Val)
    (hr : contribution h o i g = .ok r) :
    r.1 = shapeOf h (o.vars.getD i 0) ∧ r.2.length = size (shapeOf h (o.vars.getD i 0)) := by
  unfold contribution at hr
  split at hr
  · cases hr
  · exact postVjp_wf _ _ _ _ hr

theorem opBackwardVar_ok {h : Heap} {o : OpRec} {g : Val} {gr gr' : GMap} {i : Nat}
    (e : opBackwardVar h o g gr i = .ok gr') :
    (h.t (o.vars.getD i 0)).const = true ∧ gr' = gr ∨
    (h.t (o.vars.getD i 0)).const = false ∧
      ∃ bg, contribution h o i g = .ok bg ∧ gr' = accum gr (o.vars.getD i 0) bg := by
  revert e
  fun_cases opBackwardVar h o g gr i
  · rename_i hc; rintro ⟨⟩; exact .inl ⟨hc, rfl⟩
  · rintro ⟨⟩
  · rintro ⟨⟩
  · rename_i hc _ bg hbg; rintro ⟨⟩; exact .inr ⟨(Bool.not_eq_true _).mp hc, bg, hbg, rfl⟩

theorem foldErr_inv {α σ} (I : σ → Prop) (f : σ → α → Except Err σ) (xs : List α) (s : σ)
    (hstep : ∀ s x s', x ∈ xs → I s → f s x = .ok s' → I s') (hs : I s) : I (foldErr xs s f).1 := by
  fun_induction foldErr xs s f with
  | case1 => exact hs
  | case2 s x r s' e ih =>
    exact ih (fun s x s' hx => hstep s x s' (List.mem_cons_of_mem _ hx)) (hstep s x s' (List.mem_cons_self ..) hs e)
  | case3 => exact hs

/-- The gradient map only ever changes by `accum gr v bg`, where `v` is a non-constant variable of the creator
of a tensor `c` of the order and `bg` a contribution that op sends there.  So an invariant of the map that all
these accumulations preserve holds of what the loop returns, whether it completes or is interrupted. -/
theorem backLoop_inv (h : Heap) (I : GMap → Prop)
    (hacc : ∀ gr c g f i bg, I gr → (h.t c).creator = some f → i < (h.op f).vars.length →
      (h.t ((h.op f).vars.getD i 0)).const = false → contribution h (h.op f) i g = .ok bg →
      I (accum gr ((h.op f).vars.getD i 0) bg))
    (topo : List Nat) (gr : GMap) (hI : I gr) : I (backLoop h topo gr).1 := by
  have hop (c f g gr) (hcr : (h.t c).creator = some f) (hI : I gr) : I (opBackward h f g gr).1 := by
    refine foldErr_inv I _ _ gr (fun gr i gr' hi hI e => ?_) hI
    rcases opBackwardVar_ok e with ⟨_, rfl⟩ | ⟨hc, bg, hbg, rfl⟩
    · exact hI
    · exact hacc gr c g f i bg hI hcr (List.mem_range.mp hi) hc hbg
  fun_induction backLoop h topo gr with
  | case1 => exact hI
  | case2 => exact hI
  | case3 gr c r g f hcr _ gr1 e ih => exact ih (by simpa [e] using hop c f g gr hcr hI)
  | case4 gr c r g f hcr _ gr1 _ e => simpa [e] using hop c f g gr hcr hI
  | case5 _ _ _ _ _ _ ih => exact ih hI

/-- keys of the gradient map -/
def keys (gr : GMap) : List Nat := gr.map (·.1)

/-- a property of tensor ids that the non-constant variables of the creators along the order have is kept by the
keys of the gradient map -/
theorem backLoop_keys (h : Heap) (P : Nat → Prop)
    (hP : ∀ c f i, (h.t c).creator = some f → (h.t ((h.op f).vars.getD i 0)).const = false →
      i < (h.op f).vars.length → P ((h.op f).vars.getD i 0))
    (topo : List Nat) (gr : GMap) (hk : ∀ t v, lookup t gr = some v → P t) :
    ∀ t v, lookup t (backLoop h topo gr).1 = some v → P t :=
  backLoop_inv h (fun gr => ∀ t v, lookup t gr = some v → P t)
    (fun gr c _ f i _ hI hcr hi hc _ t v hv => by
      rw [lookup_accum] at hv
      split at hv
      · subst t; exact hP c f i hcr hc hi
      · exact hI t v hv) topo gr hk

theorem backLoop_wfg (h : Heap) (topo : List Nat) (gr : GMap) (hw : WFG h gr) : WFG h (backLoop h topo gr).1 :=
  backLoop_inv h (WFG h) (fun gr _ g _ i bg hI _ _ _ hbg => wfg_accum h gr _ bg hI (contribution_wf h _ i g bg hbg))
    topo gr hw

/-- the edges out of `c`: one to each non-constant variable position of its creator -/
theorem mem_edgesOfNode {h : Heap} {c : Nat} {e : Edge GF} (he : e ∈ edgesOfNode h c) :
    ∃ f i, (h.t c).creator = some f ∧ i < (h.op f).vars.length ∧
      (h.t ((h.op f).vars.getD i 0)).const = false ∧ e = edgeOf h c f i := by
  unfold edgesOfNode at he
  split at he
  · cases he
  · obtain ⟨i, hi, rfl⟩ := List.mem_map.mp he
    simp only [nonConstIdx, List.mem_filter, List.mem_range, Bool.not_eq_true'] at hi
    exact ⟨_, i, ‹_›, hi.1, hi.2, rfl⟩

theorem edgesOfNode_c (h : Heap) (c : Nat) : ∀ e ∈ edgesOfNode h c, e.c = c := fun e he => by
  obtain ⟨f, i, -, -, -, rfl⟩ := mem_edgesOfNode he
  rfl

/-- processing the variable positions `is` of the creator `f` of `c` pushes `g` along the edges of the non-constant
positions among them -/
theorem foldErr_positions (h : Heap) (c f : Nat) (g : Val) (hg : ofFn (shapeOf h c) (toFn g) = g)
    (is : List Nat) (gr gr' : GMap) (hf : foldErr is gr (opBackwardVar h (h.op f) g) = (gr', none)) :
    absG gr' = fun t => absG gr t +
      contrib ((is.filter fun i => !(h.t ((h.op f).vars.getD i 0)).const).map (edgeOf h c f))
        (fun _ => toFn g) (fun e => decide (e.t = t)) := by
  fun_induction foldErr is gr (opBackwardVar h (h.op f) g) with
  | case1 => cases hf; simp [contrib]
  | case2 gr i r gr1 e ih =>
    rw [ih hf]
    rcases opBackwardVar_ok e with ⟨hc, rfl⟩ | ⟨hc, bg, hbg, rfl⟩
    · rw [List.filter_cons_of_neg (by rw [hc]; decide)]
    · have hedge : (edgeOf h c f i).vjp (toFn g) = toFn bg := by simp only [edgeOf, hg, hbg]
      funext t
      rw [List.filter_cons_of_pos (by rw [hc]; rfl), List.map_cons, contrib_cons, hedge, absG_accum, add_assoc]
      simp only [decide_eq_true_eq]
      rfl
  | case3 => cases hf

theorem backLoop_run (h : Heap) (topo : List Nat) (hn : topo.Nodup) :
    ∀ (R : List Nat) (gr gr' : GMap), (∀ x ∈ R, x ∈ topo) → WFG h gr →
      backLoop h R gr = (gr', none) →
      WFG h gr' ∧ absG gr' = run (edges h topo) R (absG gr) := by
  intro R gr gr' hsub hw hrun
  refine ⟨by simpa [hrun] using backLoop_wfg h R gr hw, ?_⟩
  have push (c) (hc : c ∈ topo) := pushNode_flatMap (edgesOfNode h) (edgesOfNode_c h) topo hn c hc
  fun_induction backLoop h R gr with
  | case1 => cases hrun; rfl
  | case2 => cases hrun
  | case3 gr c r g f hcr hl gr1 e ih =>
    have hgw := hw c g hl
    -- one iteration of the loop is the loop on `[c]`
    have hw1 : WFG h gr1 := by simpa [backLoop, hl, hcr, e] using backLoop_wfg h [c] gr hw
    rw [ih (fun x hx => hsub x (List.mem_cons_of_mem _ hx)) hw1 hrun]
    simp only [run, List.foldl_cons, edges, push c (hsub c (List.mem_cons_self ..))]
    congr 1
    rw [foldErr_positions h c f g (ofFn_toFn _ _ hgw.1 hgw.2) _ gr gr1 e]
    simp [edgesOfNode, hcr, nonConstIdx, absG, hl]
  | case4 => cases hrun
  | case5 gr c r g hcr hl ih =>
    rw [ih (fun x hx => hsub x (List.mem_cons_of_mem _ hx)) hw hrun]
    simp [run, List.foldl_cons, edges, push c (hsub c (List.mem_cons_self ..)), edgesOfNode, hcr, contrib]

end MG.Eng
