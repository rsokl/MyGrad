import MG.Core.Nnet
/-!
Helper lemmas for C16 (core Lean only): per-axis window arithmetic, `dot`/`cstrides`/`InBox` algebra,
the guards of `sliding_window_view`, `conv_nd`, `max_pool` as conjunctions of per-axis conditions.
-/
namespace MG.Nnet

theorem lt_grid_iff {a : Ax} (hs : 0 < a.s) (g : Int) : g < grid a ↔ g * a.s + ext a.w a.d ≤ a.x := by
  unfold grid
  rw [Int.lt_add_one_iff, Int.le_ediv_iff_mul_le hs]
  omega

theorem axis_in {a : Ax} {g k : Int} (hs : 0 < a.s) (hd : 0 < a.d)
    (hg0 : 0 ≤ g) (hg : g < grid a) (hk0 : 0 ≤ k) (hk : k < a.w) :
    0 ≤ g * a.s + k * a.d ∧ g * a.s + k * a.d < a.x := by
  have h1 : g * a.s + ((a.w - 1) * a.d + 1) ≤ a.x := (lt_grid_iff hs g).1 hg
  have h2 : k * a.d ≤ (a.w - 1) * a.d :=
    Int.mul_le_mul_of_nonneg_right (Int.le_sub_one_of_lt hk) (Int.le_of_lt hd)
  exact ⟨Int.add_nonneg (Int.mul_nonneg hg0 (Int.le_of_lt hs)) (Int.mul_nonneg hk0 (Int.le_of_lt hd)), by omega⟩

theorem tile_iff {t s : Int} (hs : 0 < s) : (t % s = 0 ∧ 0 < t / s + 1) ↔ (0 ≤ t ∧ s ∣ t) := by
  rw [← Int.dvd_iff_emod_eq_zero, Int.lt_add_one_iff, Int.ediv_nonneg_iff_of_pos hs, and_comm]

theorem w_le_wd {w d : Int} (hw : 0 < w) (hd : 0 < d) : w ≤ w * d := by
  have := Int.mul_le_mul_of_nonneg_left (show (1:Int) ≤ d by omega) (Int.le_of_lt hw)
  omega

/-- `idx` is a valid multi-index of an array of shape `sh` -/
def InBox : List Int → List Int → Prop
  | [], [] => True
  | i :: is, n :: ns => (0 ≤ i ∧ i < n) ∧ InBox is ns
  | _, _ => False

instance decInBox : (a b : List Int) → Decidable (InBox a b)
  | [], [] => isTrue trivial
  | i :: is, n :: ns =>
    have := decInBox is ns
    (inferInstance : Decidable ((0 ≤ i ∧ i < n) ∧ InBox is ns))
  | [], _ :: _ => isFalse (fun h => h)
  | _ :: _, [] => isFalse (fun h => h)

theorem InBox.length : ∀ {a b : List Int}, InBox a b → a.length = b.length
  | [], [], _ => rfl
  | _ :: is, _ :: ns, h => by simp [InBox.length (a := is) (b := ns) h.2]
  | [], _ :: _, h => False.elim h
  | _ :: _, [], h => False.elim h

theorem InBox.append : ∀ {a A b B : List Int}, InBox a A → InBox b B → InBox (a ++ b) (A ++ B)
  | [], [], _, _, _, hb => hb
  | _ :: _, _ :: _, _, _, ⟨h1, h2⟩, hb => ⟨h1, h2.append hb⟩
  | [], _ :: _, _, _, h, _ => False.elim h
  | _ :: _, [], _, _, h, _ => False.elim h

theorem inBox_split : ∀ {A B idx : List Int}, InBox idx (A ++ B) →
    ∃ a b, idx = a ++ b ∧ InBox a A ∧ InBox b B
  | [], _, idx, h => ⟨[], idx, rfl, trivial, h⟩
  | _ :: _, _, [], h => False.elim h
  | _ :: A, _, i :: _, ⟨h1, h2⟩ =>
    let ⟨a, b, e, ha, hb⟩ := inBox_split (A := A) h2
    ⟨i :: a, b, congrArg (i :: ·) e, ⟨h1, ha⟩, hb⟩

theorem dot_append : ∀ {a c : List Int} (b d : List Int), a.length = c.length →
    dot (a ++ b) (c ++ d) = dot a c + dot b d
  | [], [], _, _, _ => (Int.zero_add _).symm
  | i :: is, s :: ss, b, d, h => by
    show i * s + dot (is ++ b) (ss ++ d) = i * s + dot is ss + dot b d
    rw [dot_append b d (Nat.succ.inj h), Int.add_assoc]
  | [], _ :: _, _, _, h => nomatch h
  | _ :: _, [], _, _, h => nomatch h

theorem dot_map_mul (nb : Int) : ∀ (a l : List Int), dot a (l.map (nb * ·)) = nb * dot a l
  | [], _ => by simp [dot]
  | _ :: _, [] => by simp [dot]
  | i :: is, s :: ss => by
    simp only [List.map, dot, dot_map_mul nb is ss]
    grind

theorem length_cstrides : ∀ (l : List Int), (cstrides l).length = l.length
  | [] => rfl
  | _ :: xs => by simp [cstrides, length_cstrides xs]

theorem dot_cstrides_bound : ∀ {idx sh : List Int}, InBox idx sh →
    0 ≤ dot idx (cstrides sh) ∧ dot idx (cstrides sh) < prod sh
  | [], [], _ => by decide
  | i :: is, n :: ns, ⟨⟨h0, h1⟩, h2⟩ => by
    obtain ⟨r0, r1⟩ := dot_cstrides_bound h2
    show 0 ≤ i * prod ns + dot is (cstrides ns) ∧ i * prod ns + dot is (cstrides ns) < n * prod ns
    -- a mixed-radix digit: `i * P + r < (i + 1) * P ≤ n * P`
    have e : (i + 1) * prod ns ≤ n * prod ns := Int.mul_le_mul_of_nonneg_right h1 (by omega)
    rw [Int.add_mul, Int.one_mul] at e
    exact ⟨Int.add_nonneg (Int.mul_nonneg h0 (by omega)) r0, by omega⟩
  | [], _ :: _, h => False.elim h
  | _ :: _, [], h => False.elim h

theorem mem_indices : ∀ {sh idx : List Int}, idx ∈ indices sh → InBox idx sh
  | [], idx, h => by
    simp [indices] at h
    subst h
    trivial
  | n :: ns, idx, h => by
    simp only [indices, List.mem_flatMap, List.mem_range, List.mem_map] at h
    obtain ⟨i, hi, is, his, rfl⟩ := h
    exact ⟨⟨by omega, by omega⟩, mem_indices his⟩

theorem map_indices_congr {sh : List Int} {f g : List Int → Int}
    (h : ∀ idx, idx.length = sh.length → f idx = g idx) : (indices sh).map f = (indices sh).map g :=
  List.map_congr_left fun idx hidx => h idx (mem_indices hidx).length

theorem dot_pos : ∀ (axes : List Ax) (G K sc : List Int), G.length = axes.length →
    K.length = axes.length → sc.length = axes.length →
    dot G (List.zipWith (· * ·) sc (axes.map (·.s))) + dot K (List.zipWith (· * ·) sc (axes.map (·.d)))
      = dot (pos G K axes) sc
  | [], _, _, _, _, _, _ => by simp [dot, pos]
  | a :: as, g :: gs, k :: ks, c :: cs, hG, hK, hc => by
    have ih := dot_pos as gs ks cs (Nat.succ.inj hG) (Nat.succ.inj hK) (Nat.succ.inj hc)
    show g * (c * a.s) + dot gs _ + (k * (c * a.d) + dot ks _) = (g * a.s + k * a.d) * c + dot (pos gs ks as) cs
    rw [← ih]
    grind
  | _ :: _, [], _, _, hG, _, _ => nomatch hG
  | _ :: _, _ :: _, [], _, _, hK, _ => nomatch hK
  | _ :: _, _ :: _, _ :: _, [], _, _, hc => nomatch hc

theorem pos_length : ∀ (axes : List Ax) (G K : List Int), G.length = axes.length →
    K.length = axes.length → (pos G K axes).length = axes.length
  | [], _, _, _, _ => by simp [pos]
  | a :: as, g :: gs, k :: ks, hG, hK =>
    congrArg (· + 1) (pos_length as gs ks (Nat.succ.inj hG) (Nat.succ.inj hK))
  | _ :: _, [], _, hG, _ => nomatch hG
  | _ :: _, _ :: _, [], _, hK => nomatch hK

theorem inBox_pos : ∀ (axes : List Ax) (G K : List Int), (∀ a ∈ axes, 0 < a.s ∧ 0 < a.d) →
    InBox G (axes.map grid) → InBox K (axes.map (·.w)) → InBox (pos G K axes) (axes.map (·.x))
  | [], [], [], _, _, _ => trivial
  | _ :: as, _ :: gs, _ :: ks, h, ⟨⟨g0, g1⟩, hG⟩, ⟨⟨k0, k1⟩, hK⟩ =>
    have ⟨ha, has⟩ := List.forall_mem_cons.1 h
    ⟨axis_in ha.1 ha.2 g0 g1 k0 k1, inBox_pos as gs ks has hG hK⟩
  | [], [], _ :: _, _, _, hK => False.elim hK
  | [], _ :: _, _, _, hG, _ => False.elim hG
  | _ :: _, [], _, _, hG, _ => False.elim hG
  | _ :: _, _ :: _, [], _, _, hK => False.elim hK

theorem prod_append : ∀ (a b : List Int), prod (a ++ b) = prod a * prod b
  | [], b => by simp [prod]
  | x :: a, b => by simp [prod, prod_append a b, Int.mul_assoc]

/-! ## guards

Each guard is a chain `if c₁ then some e₁ else if c₂ then some e₂ … else none` over `List.all`/`List.any` of
per-axis tests; `ite_some_eq_none` turns "no guard fires" into the conjunction of the negated tests, and each
view is `match guard with | some e => .error e | none => …` (`guarded_eq_ok`, `accepted_guarded`). -/

theorem ite_some_eq_none {c : Prop} [Decidable c] {e : Err} {r : Option Err} :
    (if c then some e else r) = none ↔ ¬ c ∧ r = none := by
  by_cases h : c <;> simp [h]

def accepted {α : Type} : Except Err α → Bool
  | .ok _ => true
  | .error _ => false

theorem accepted_iff {α : Type} (r : Except Err α) : accepted r = true ↔ ∃ v, r = .ok v := by
  cases r <;> simp [accepted]

theorem accepted_ite_error {α : Type} {c : Prop} [Decidable c] {e : Err} {r : Except Err α} :
    accepted (if c then .error e else r) = true ↔ ¬ c ∧ accepted r = true := by
  by_cases h : c <;> simp [h, accepted]

theorem guarded_eq_ok {g : Option Err} {r : Except Err View} {v : View} :
    (match g with | some e => Except.error e | none => r) = .ok v ↔ g = none ∧ r = .ok v := by
  cases g <;> simp

theorem accepted_guarded {g : Option Err} {r : Except Err View} :
    accepted (match g with | some e => Except.error e | none => r) = true ↔ g = none ∧ accepted r = true := by
  cases g <;> simp [accepted]

def AxOk (a : Ax) : Prop := 0 < a.w ∧ 0 < a.s ∧ 0 < a.d ∧ a.w * a.d ≤ a.x

theorem swvGuard_none_iff (batch : List Int) (axes : List Ax) :
    swvGuard batch axes = none ↔ axes ≠ [] ∧ ∀ a ∈ axes, AxOk a := by
  simp only [swvGuard, ite_some_eq_none, ite_eq_right_iff, reduceCtorEq, and_false, imp_false,
    Bool.not_eq_true', Bool.not_eq_false, List.all_eq_true, List.any_eq_true, decide_eq_true_eq,
    List.isEmpty_iff, not_exists, not_and, Int.not_lt]
  constructor
  · rintro ⟨hw, hs, _, hd, hf, hne⟩
    exact ⟨hne, fun a ha => ⟨hw a ha, hs a ha, hd a ha, hf a ha⟩⟩
  · rintro ⟨hne, h⟩
    -- `w ≤ x` (l.156) is implied by the later `w * d ≤ x`
    exact ⟨fun a ha => (h a ha).1, fun a ha => (h a ha).2.1,
      fun a ha => Int.le_trans (w_le_wd (h a ha).1 (h a ha).2.2.1) (h a ha).2.2.2,
      fun a ha => (h a ha).2.2.1, fun a ha => (h a ha).2.2.2, hne⟩

/-- what `swv` returns when the guards pass -/
def swvResult (batch : List Int) (axes : List Ax) : View :=
  let cs := cstrides (batch ++ axes.map (·.x))
  { shape := axes.map grid ++ batch ++ axes.map (·.w)
    strides := List.zipWith (· * ·) (cs.drop batch.length) (axes.map (·.s)) ++
      (cs.take batch.length ++ List.zipWith (· * ·) (cs.drop batch.length) (axes.map (·.d)))
    writeable := false }

theorem swv_ok {batch : List Int} {axes : List Ax} {v : View}
    (h : swv batch axes = .ok v) : swvGuard batch axes = none ∧ v = swvResult batch axes :=
  (guarded_eq_ok.1 h).imp_right fun h => (Except.ok.inj h).symm

theorem swv_accepted_iff (batch : List Int) (axes : List Ax) :
    accepted (swv batch axes) = true ↔ swvGuard batch axes = none :=
  accepted_guarded.trans (and_iff_left rfl)

/-- the stride algebra of the window view, for any split `front ++ sc` of the array's strides -/
theorem dot_window (axes : List Ax) (G N K front sc : List Int) (hG : G.length = axes.length)
    (hN : N.length = front.length) (hK : K.length = axes.length) (hsc : sc.length = axes.length) :
    dot (G ++ N ++ K) (List.zipWith (· * ·) sc (axes.map (·.s)) ++
        (front ++ List.zipWith (· * ·) sc (axes.map (·.d)))) = dot (N ++ pos G K axes) (front ++ sc) := by
  rw [List.append_assoc, dot_append _ _ (by simp [hG, hsc]), dot_append _ _ hN, dot_append _ _ hN,
    ← dot_pos axes G K sc hG hK hsc]
  omega

theorem swvResult_offset (batch : List Int) (axes : List Ax) (G N K : List Int)
    (hG : G.length = axes.length) (hN : N.length = batch.length) (hK : K.length = axes.length) :
    dot (G ++ N ++ K) (swvResult batch axes).strides =
      dot (N ++ pos G K axes) (cstrides (batch ++ axes.map (·.x))) := by
  have hcs : (cstrides (batch ++ axes.map (·.x))).length = batch.length + axes.length := by
    simp [length_cstrides]
  have := dot_window axes G N K ((cstrides (batch ++ axes.map (·.x))).take batch.length)
    ((cstrides (batch ++ axes.map (·.x))).drop batch.length) hG (by simp [hcs, hN]) hK (by simp [hcs])
  rwa [List.take_append_drop] at this

theorem swvResult_inBox (batch : List Int) (axes : List Ax)
    (hax : ∀ a ∈ axes, 0 < a.s ∧ 0 < a.d) (idx : List Int)
    (hi : InBox idx (swvResult batch axes).shape) :
    ∃ G N K, idx = G ++ N ++ K ∧ G.length = axes.length ∧ N.length = batch.length ∧
      K.length = axes.length ∧ InBox (N ++ pos G K axes) (batch ++ axes.map (·.x)) := by
  obtain ⟨GN, K, rfl, hGN, hK⟩ := inBox_split hi
  obtain ⟨G, N, rfl, hG, hN⟩ := inBox_split hGN
  exact ⟨G, N, K, rfl, by simpa using hG.length, hN.length, by simpa using hK.length,
    hN.append (inBox_pos axes G K hax hG hK)⟩

/-- the documented validity of one convolved axis: positive stride/dilation, non-negative padding,
every placement inside the padded data (`(w-1)d+1 ≤ x+2p`) and the placements tile it exactly -/
def CAxTile (a : CAx) : Prop :=
  1 ≤ a.d ∧ 0 ≤ a.p ∧ 1 ≤ a.s ∧ ext a.w a.d ≤ a.x + 2 * a.p ∧ a.s ∣ (a.x + 2 * a.p - ext a.w a.d)

theorem CAx.tiles_iff (a : CAx) (hs : 1 ≤ a.s) :
    a.tiles = true ↔ ext a.w a.d ≤ a.x + 2 * a.p ∧ a.s ∣ (a.x + 2 * a.p - ext a.w a.d) := by
  simp only [CAx.tiles, Bool.and_eq_true, decide_eq_true_eq]
  rw [tile_iff (by omega), Int.sub_nonneg]

theorem convGuard_none_iff (c cw : Int) (axes : List CAx) :
    convGuard c cw axes = none ↔ axes ≠ [] ∧ c = cw ∧ ∀ a ∈ axes, CAxTile a := by
  simp only [convGuard, ite_some_eq_none, Bool.not_eq_true', Bool.not_eq_false, List.all_eq_true,
    decide_eq_true_eq, List.isEmpty_iff, ne_eq, Decidable.not_not, and_true]
  constructor
  · rintro ⟨hne, hc, hd, hp, hs, ht⟩
    exact ⟨hne, hc, fun a ha => ⟨hd a ha, hp a ha, hs a ha, (CAx.tiles_iff a (hs a ha)).1 (ht a ha)⟩⟩
  · rintro ⟨hne, hc, h⟩
    exact ⟨hne, hc, fun a ha => (h a ha).1, fun a ha => (h a ha).2.1, fun a ha => (h a ha).2.2.1,
      fun a ha => (CAx.tiles_iff a (h a ha).2.2.1).2 (h a ha).2.2.2⟩

theorem convView_ok {n c cw : Int} {axes : List CAx} {v : View}
    (h : convView n c cw axes = .ok v) :
    convGuard c cw axes = none ∧ swv [n, c] (axes.map CAx.padded) = .ok v :=
  guarded_eq_ok.1 h

/-- the documented validity of one pooled axis: the window fits and the placements tile the axis exactly -/
def PAxTile (a : PAx) : Prop := 0 < a.w ∧ 1 ≤ a.s ∧ a.w ≤ a.x ∧ a.s ∣ (a.x - a.w)

theorem PAx.tiles_iff (a : PAx) (hs : 1 ≤ a.s) :
    a.tiles = true ↔ a.w ≤ a.x ∧ a.s ∣ (a.x - a.w) := by
  simp only [PAx.tiles, Bool.and_eq_true, decide_eq_true_eq]
  rw [tile_iff (by omega), Int.sub_nonneg]

theorem poolGuard_none_iff (axes : List PAx) :
    poolGuard axes = none ↔ ∀ a ∈ axes, PAxTile a := by
  simp only [poolGuard, ite_some_eq_none, Bool.not_eq_true', Bool.not_eq_false, List.all_eq_true,
    decide_eq_true_eq, and_true]
  constructor
  · rintro ⟨hw, hs, ht⟩ a ha
    exact ⟨hw a ha, hs a ha, (PAx.tiles_iff a (hs a ha)).1 (ht a ha)⟩
  · intro h
    exact ⟨fun a ha => (h a ha).1, fun a ha => (h a ha).2.1,
      fun a ha => (PAx.tiles_iff a (h a ha).2.1).2 (h a ha).2.2⟩

theorem poolView_ok {batch : List Int} {axes : List PAx} {v : View}
    (h : poolView batch axes = .ok v) :
    poolGuard axes = none ∧ swv batch (axes.map PAx.toAx) = .ok v :=
  guarded_eq_ok.1 h

end MG.Nnet
