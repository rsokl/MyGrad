import MG.Core.InPlace
import MG.Proofs.Lemmas.Heap
/-!
Laws of the operations of `duplicating_graph.py` on the engine heap: `reroute_ops_through` touches nothing but the
variable lists of the listed ops, `make_placeholder_tensor` adds one tensor, `null_grad` changes one tensor's gradient
fields.  Everything later about `_in_place_op` goes through these.  Core Lean only.
-/
namespace MG.Eng

@[simp] theorem nullGrad_op (h : Heap) (x f : Nat) : (nullGrad h x).op f = h.op f := rfl
@[simp] theorem nullGrad_next (h : Heap) (x : Nat) : (nullGrad h x).next = h.next := rfl
@[simp] theorem nullGrad_bufs (h : Heap) (x : Nat) : (nullGrad h x).bufs = h.bufs := rfl

theorem nullGrad_t_ne (h : Heap) (x t : Nat) (ht : t ≠ x) : (nullGrad h x).t t = h.t t :=
  t_modT_ne _ _ _ _ ht

@[simp] theorem nullGrad_t_self (h : Heap) (x : Nat) :
    (nullGrad h x).t x = { h.t x with grad := none, viewGrad := none } := t_modT_self _ _ _

theorem nullGrad_idem (h : Heap) (x : Nat) : nullGrad (nullGrad h x) x = nullGrad h x := by
  simp only [nullGrad, modT_modT]; rfl

/-- `null_grad` keeps every field other than the two gradient fields, at every tensor -/
theorem nullGrad_field {β} (π : Tens → β) (hπ : ∀ x : Tens, π { x with grad := none, viewGrad := none } = π x)
    (h : Heap) (x t : Nat) : π ((nullGrad h x).t t) = π (h.t t) :=
  t_modT_field h x t _ π hπ

theorem nullGrad_data (h : Heap) (x t : Nat) : ((nullGrad h x).t t).data = (h.t t).data :=
  nullGrad_field (·.data) (fun _ => rfl) h x t

theorem nullGrad_const (h : Heap) (x t : Nat) : ((nullGrad h x).t t).const = (h.t t).const :=
  nullGrad_field (·.const) (fun _ => rfl) h x t

theorem nullGrad_creator (h : Heap) (x t : Nat) : ((nullGrad h x).t t).creator = (h.t t).creator :=
  nullGrad_field (·.creator) (fun _ => rfl) h x t

theorem nullGrad_ops (h : Heap) (x t : Nat) : ((nullGrad h x).t t).ops = (h.t t).ops :=
  nullGrad_field (·.ops) (fun _ => rfl) h x t

theorem nullGrad_base (h : Heap) (x t : Nat) : ((nullGrad h x).t t).base = (h.t t).base :=
  nullGrad_field (·.base) (fun _ => rfl) h x t

theorem nullGrad_vchildren (h : Heap) (x t : Nat) : ((nullGrad h x).t t).vchildren = (h.t t).vchildren :=
  nullGrad_field (·.vchildren) (fun _ => rfl) h x t

end MG.Eng

namespace MG.C13
open MG.Eng

/-- what `reroute_ops_through(target, source)` does to one variable -/
def swapVar (source target : Nat) (v : Nat) : Nat := if v = source then target else v

theorem swapVar_comm (a pa b pb u : Nat) (h1 : a ≠ b) (h2 : pa ≠ b) (h3 : pb ≠ a) :
    swapVar a pa (swapVar b pb u) = swapVar b pb (swapVar a pa u) := by
  unfold swapVar
  by_cases e1 : u = b
  · subst e1; simp [Ne.symm h1, h3]
  · by_cases e2 : u = a
    · subst e2; simp [h1, h2]
    · simp [e1, e2]

theorem swapVar_idem (s t v : Nat) : swapVar s t (swapVar s t v) = swapVar s t v := by
  unfold swapVar
  by_cases h : v = s
  · by_cases h' : t = s <;> simp [h, h']
  · simp [h]

end MG.C13

namespace MG.Eng
open MG.C13

/-- one re-routing pass over a list of op ids changes the op table only, and there only the variable lists of the
listed ops (`swapVar` is idempotent, so an op listed twice is mapped once) -/
theorem reroute_fold (source target : Nat) (L : List Nat) : ∀ h : Heap,
    let h' := L.foldl (fun h f =>
      let o := h.op f
      h.setOp f { o with vars := o.vars.map fun v => if v = source then target else v }) h
    (∃ ops, h' = { h with ops := ops }) ∧
    ∀ f, h'.op f = if f ∈ L then { h.op f with vars := (h.op f).vars.map (swapVar source target) } else h.op f := by
  induction L with
  | nil => intro h; exact ⟨⟨_, rfl⟩, fun f => by simp⟩
  | cons f0 L ih =>
    intro h
    simp only [List.foldl_cons]
    obtain ⟨⟨ops, he⟩, hv⟩ := ih (h.setOp f0 { h.op f0 with vars := (h.op f0).vars.map (swapVar source target) })
    refine ⟨⟨ops, he⟩, fun f => ?_⟩
    refine (hv f).trans ?_
    by_cases hf : f = f0
    · subst hf
      have hi : swapVar source target ∘ swapVar source target = swapVar source target := funext (swapVar_idem _ _)
      simp only [op_setOp_self, List.mem_cons, true_or, if_true, List.map_map, hi]
      split <;> rfl
    · simp only [op_setOp_ne _ _ _ _ hf, List.mem_cons, hf, false_or]

theorem reroute_eq (h : Heap) (target source : Nat) : ∃ ops, reroute h target source = { h with ops := ops } :=
  (reroute_fold source target (h.t source).ops h).1

theorem reroute_op (h : Heap) (target source f : Nat) :
    (reroute h target source).op f =
      if f ∈ (h.t source).ops then { h.op f with vars := (h.op f).vars.map (swapVar source target) } else h.op f :=
  (reroute_fold source target (h.t source).ops h).2 f

@[simp] theorem reroute_t (h : Heap) (a b t : Nat) : (reroute h a b).t t = h.t t := by
  obtain ⟨_, e⟩ := reroute_eq h a b; rw [e]; rfl

@[simp] theorem reroute_bufs (h : Heap) (a b : Nat) : (reroute h a b).bufs = h.bufs := by
  obtain ⟨_, e⟩ := reroute_eq h a b; rw [e]

@[simp] theorem reroute_next (h : Heap) (a b : Nat) : (reroute h a b).next = h.next := by
  obtain ⟨_, e⟩ := reroute_eq h a b; rw [e]

@[simp] theorem reroute_ro (h : Heap) (a b : Nat) : (reroute h a b).ro = h.ro := by
  obtain ⟨_, e⟩ := reroute_eq h a b; rw [e]

theorem reroute_vars (h : Heap) (target source f : Nat) :
    ((reroute h target source).op f).vars =
      if f ∈ (h.t source).ops then (h.op f).vars.map (swapVar source target) else (h.op f).vars := by
  rw [reroute_op]; split <;> rfl

end MG.Eng

namespace MG.C04V
open MG.Eng

/-- `make_placeholder_tensor(x, base=bs)` for a tensor without gradient, as a function: the placeholder gets the next
id, takes over `x`'s state with base `bs`, and replaces `x` in every op that consumes `x` -/
def mkPh (h : Heap) (x : Nat) (bs : Option Nat) : Heap :=
  reroute ((mirror h.fresh.1 h.fresh.2 x).modT h.fresh.2 ({ · with base := bs })) h.next x

theorem makePlaceholder_mkPh (h : Heap) (x : Nat) (bs : Option Nat) (hg : (h.t x).grad = none) :
    makePlaceholder h x bs = .ok (mkPh h x bs, h.next) := by
  simp [makePlaceholder, hg, mkPh]

/-- … and it succeeds on no other tensor -/
theorem makePlaceholder_ok {h h' : Heap} {x p : Nat} {bs : Option Nat} (hm : makePlaceholder h x bs = .ok (h', p)) :
    (h.t x).grad = none ∧ h' = mkPh h x bs ∧ p = h.next := by
  cases hg : (h.t x).grad with
  | some v => simp [makePlaceholder, hg] at hm
  | none => rw [makePlaceholder_mkPh h x bs hg] at hm; cases hm; exact ⟨rfl, rfl, rfl⟩

@[simp] theorem mkPh_bufs (h : Heap) (x : Nat) (bs : Option Nat) : (mkPh h x bs).bufs = h.bufs := by simp [mkPh, mirror]
@[simp] theorem mkPh_next (h : Heap) (x : Nat) (bs : Option Nat) : (mkPh h x bs).next = h.next + 1 := by simp [mkPh, mirror]
@[simp] theorem mkPh_ro (h : Heap) (x : Nat) (bs : Option Nat) : (mkPh h x bs).ro = h.ro := by simp [mkPh, mirror]; rfl

theorem mkPh_t_ne (h : Heap) (x : Nat) (bs : Option Nat) (t : Nat) (ht : t ≠ h.next) : (mkPh h x bs).t t = h.t t := by
  simp only [mkPh, reroute_t, mirror, fresh_snd]
  rw [t_modT_ne _ _ _ _ ht, t_setT_ne _ _ _ _ ht]; rfl

@[simp] theorem mkPh_t_ph (h : Heap) (x : Nat) (bs : Option Nat) : (mkPh h x bs).t h.next = { h.t x with base := bs } := by
  simp only [mkPh, reroute_t, mirror, fresh_snd, t_modT_self, t_setT_self]; rfl

/-- … stated at an id known to be the placeholder's (`h.next` is often only propositionally of the expected form) -/
theorem mkPh_t_at (h : Heap) (x : Nat) (bs : Option Nat) (p : Nat) (hp : p = h.next) :
    (mkPh h x bs).t p = { h.t x with base := bs } := hp ▸ mkPh_t_ph h x bs

theorem mkPh_op (h : Heap) (x : Nat) (bs : Option Nat) (hx : x ≠ h.next) (f : Nat) :
    (mkPh h x bs).op f =
      if f ∈ (h.t x).ops then { h.op f with vars := (h.op f).vars.map (MG.C13.swapVar x h.next) } else h.op f := by
  have e : ((mirror h.fresh.1 h.fresh.2 x).modT h.fresh.2 ({ · with base := bs })).t x = h.t x := by
    simp only [mirror, fresh_snd]
    rw [t_modT_ne _ _ _ _ hx, t_setT_ne _ _ _ _ hx]; rfl
  unfold mkPh
  rw [reroute_op, e]
  rfl

theorem mkPh_vars (h : Heap) (x : Nat) (bs : Option Nat) (hx : x ≠ h.next) (f : Nat) :
    ((mkPh h x bs).op f).vars =
      if f ∈ (h.t x).ops then (h.op f).vars.map (MG.C13.swapVar x h.next) else (h.op f).vars := by
  rw [mkPh_op h x bs hx]; split <;> rfl

end MG.C04V
