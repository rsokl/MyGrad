import MG.Core.Routes
/-! Helper lemmas for C11: soundness of the grouped table check of `MG/Core/Routes.lean`, chains of a transitive
relation along a list, and what `normWith` returns. -/
namespace MG.Routes

def chain {α : Type} (p : α → α → Bool) : List α → Bool
  | a :: b :: l => p a b && chain p (b :: l)
  | _ => true

theorem pairwise_of_chain {α : Type} {p : α → α → Bool} {R : α → α → Prop} (hp : ∀ a b, p a b = true → R a b)
    (tr : ∀ {a b c}, R a b → R b c → R a c) : ∀ {l : List α}, chain p l = true → l.Pairwise R
  | [], _ => .nil
  | [_], _ => List.pairwise_singleton ..
  | a :: b :: l, h => by
    simp only [chain, Bool.and_eq_true] at h
    have ih := pairwise_of_chain hp tr h.2
    refine List.pairwise_cons.mpr ⟨fun x hx => ?_, ih⟩
    rcases List.mem_cons.mp hx with rfl | hx
    · exact hp _ _ h.1
    · exact tr (hp _ _ h.1) (List.rel_of_pairwise_cons ih hx)

theorem pairwise_trichotomy {α : Type} {R : α → α → Prop} {l : List α} (h : l.Pairwise R) :
    ∀ ⦃a⦄, a ∈ l → ∀ ⦃b⦄, b ∈ l → a = b ∨ R a b ∨ R b a :=
  List.Pairwise.forall_of_forall_of_flip (fun _ _ => .inl rfl) (h.imp fun r => .inr (.inl r))
    (h.imp fun r => .inr (.inr r))

theorem strictInc_eq_chain : ∀ l : List Nat, strictInc l = chain (fun a b => decide (a < b)) l
  | [] | [_] => rfl
  | a :: b :: l => by simp only [strictInc, chain, strictInc_eq_chain (b :: l)]

theorem starOK_mem {β : Type} [DecidableEq β] {k : Route → Nat} {f : Route → β} {g : List Route}
    (h : starOK k f g = true) : ∃ a, g.head? = some a ∧ gkey k g = k a ∧ ∀ r ∈ g, k r = k a ∧ f r = f a := by
  match g, h with
  | a :: l, h =>
    refine ⟨a, rfl, rfl, fun r hr => ?_⟩
    rcases List.mem_cons.mp hr with rfl | hr
    · exact ⟨rfl, rfl⟩
    · simpa using List.all_eq_true.mp h r hr

theorem tableOK_mem {β : Type} [DecidableEq β] {k : Route → Nat} {f : Route → β} {gs : List (List Route)}
    (h : tableOK k f gs = true) {g : List Route} (hg : g ∈ gs) :
    ∃ a, g.head? = some a ∧ gkey k g = k a ∧ ∀ r ∈ g, k r = k a ∧ f r = f a :=
  starOK_mem (List.all_eq_true.mp (Bool.and_eq_true_iff.mp h).1 g hg)

theorem tableOK_sound {β : Type} [DecidableEq β] (k : Route → Nat) (f : Route → β) (gs : List (List Route))
    (h : tableOK k f gs = true) :
    ∀ r₁ ∈ gs.flatten, ∀ r₂ ∈ gs.flatten, k r₁ = k r₂ → f r₁ = f r₂ := by
  intro r₁ h₁ r₂ h₂ hk
  obtain ⟨g₁, hg₁, h₁⟩ := List.mem_flatten.mp h₁
  obtain ⟨g₂, hg₂, h₂⟩ := List.mem_flatten.mp h₂
  obtain ⟨a, _, ka, m₁⟩ := tableOK_mem h hg₁
  obtain ⟨b, _, kb, m₂⟩ := tableOK_mem h hg₂
  have hc : chain (fun a b => decide (a < b)) (gs.map (gkey k)) = true :=
    strictInc_eq_chain _ ▸ (Bool.and_eq_true_iff.mp h).2
  have hp : gs.Pairwise fun g g' => gkey k g < gkey k g' :=
    List.pairwise_map.mp (pairwise_of_chain (R := (· < ·)) (fun _ _ => of_decide_eq_true) Nat.lt_trans hc)
  have e : gkey k g₁ = gkey k g₂ := by rw [ka, kb, ← (m₁ r₁ h₁).1, ← (m₂ r₂ h₂).1, hk]
  rcases pairwise_trichotomy hp hg₁ hg₂ with rfl | l | l
  · exact (m₁ r₁ h₁).2.trans (m₁ r₂ h₂).2.symm
  · exact absurd e (Nat.ne_of_lt l)
  · exact absurd e.symm (Nat.ne_of_lt l)

/-- no bound on the fields is needed -/
theorem opKey_of_key {r a : Route} (k : r.key = a.key) (f : r.form = a.form) : r.opKey = a.opKey := by
  unfold Route.key at k; rw [f] at k
  exact Nat.eq_of_mul_eq_mul_right (by decide : 0 < 16) (Nat.add_right_cancel k)

theorem normWith_cases {α : Type} [DecidableEq α] (eqv : List (α × α)) (s : α) :
    normWith eqv s = s ∨ (s, normWith eqv s) ∈ eqv := by
  unfold normWith
  split
  next p h =>
    have hp : p.1 = s := by simpa using List.find?_some h
    exact .inr (hp ▸ List.mem_of_find?_eq_some h)
  next => exact .inl rfl

end MG.Routes
