import MG.Proofs.Lemmas.LinearBasic

/-! Helper lemmas: `reduce_broadcast` is the adjoint of broadcasting (flat C-order index map `bidx`). -/
namespace MG.Lin

variable {R : Type} [CommSemiring R]

theorem gather_append (φ ψ : List Nat) (x : List R) : gather (φ ++ ψ) x = gather φ x ++ gather ψ x := by
  simp [gather]

/-- indices inside the first block read from it -/
theorem gather_append_left (φ : List Nat) (x x' : List R) (h : ∀ i ∈ φ, i < x.length) :
    gather φ (x ++ x') = gather φ x := by
  apply List.map_congr_left
  intro i hi
  simp [List.getD_eq_getElem?_getD, List.getElem?_append_left (h i hi)]

/-- indices shifted by the length of the first block read from the second -/
theorem gather_map_add_append (φ : List Nat) (x x' : List R) :
    gather (φ.map (· + x.length)) (x ++ x') = gather φ x' := by
  simp only [gather, List.map_map]
  apply List.map_congr_left
  intro i _
  simp only [Function.comp, List.getD_eq_getElem?_getD, List.getElem?_append_right (Nat.le_add_left ..),
    Nat.add_sub_cancel]

theorem gather_flatMap {β : Type} (l : List β) (f : β → List Nat) (x : List R) :
    gather (l.flatMap f) x = l.flatMap (fun a => gather (f a) x) := by
  simp [gather, List.map_flatMap]

theorem range_succ_flatMap {β : Type} (f : Nat → List β) (k : Nat) :
    (List.range (k + 1)).flatMap f = f 0 ++ (List.range k).flatMap (fun o => f (o + 1)) := by
  rw [List.range_succ_eq_map, List.flatMap_cons, List.flatMap_map]

theorem length_flatMap_range {β : Type} (f : Nat → List β) (c k : Nat) (h : ∀ o, (f o).length = c) :
    ((List.range k).flatMap f).length = k * c := by
  simp [List.length_flatMap, h, List.map_const']

theorem size_cons (a : Nat) (s : List Nat) : size (a :: s) = a * size s := rfl

theorem size_append (a b : List Nat) : size (a ++ b) = size a * size b := List.prod_append_nat

/-- a list of `(k + 1) * m` entries is a first chunk of `m` entries followed by `k * m` entries -/
theorem exists_chunk {β : Type} (m k : Nat) (y : List β) (hy : y.length = (k + 1) * m) :
    ∃ c l, y = c ++ l ∧ c.length = m ∧ l.length = k * m := by
  refine ⟨y.take m, y.drop m, (List.take_append_drop m y).symm, ?_, ?_⟩
  · rw [List.length_take, hy, Nat.succ_mul, Nat.min_eq_left (Nat.le_add_left ..)]
  · rw [List.length_drop, hy, Nat.succ_mul, Nat.add_sub_cancel]

theorem chunks_succ_append {β : Type} (m k : Nat) (c l : List β) (hc : c.length = m) :
    chunks m (k + 1) (c ++ l) = c :: chunks m k l := by
  rw [chunks, List.take_left' hc, List.drop_left' hc]

/-- summing chunks into an accumulator keeps its length and is adjoint to repeating the other argument -/
theorem foldl_vadd_spec (m k : Nat) (acc y : List R) (hacc : acc.length = m) (hy : y.length = k * m) :
    ((chunks m k y).foldl vadd acc).length = m ∧ ∀ z : List R, z.length = m →
      dot ((chunks m k y).foldl vadd acc) z = dot acc z + dot y ((List.range k).flatMap (fun _ => z)) := by
  induction k generalizing acc y with
  | zero => simpa [chunks] using hacc
  | succ k ih =>
    obtain ⟨c, l, rfl, hc, hl⟩ := exists_chunk m k y hy
    obtain ⟨ihl, ihd⟩ := ih (vadd acc c) l (by simp [hacc, hc]) hl
    rw [chunks_succ_append m k c l hc, List.foldl_cons]
    refine ⟨ihl, fun z hz => ?_⟩
    rw [ihd z hz, dot_vadd _ _ _ (hacc.trans hc.symm), range_succ_flatMap, dot_append _ _ _ _ (hc.trans hz.symm),
      add_assoc]

/-- the stretched-axis step: `sumChunks` is adjoint to repeating -/
theorem sumChunks_spec (m k : Nat) (y : List R) (hy : y.length = k * m) :
    (sumChunks m k y).length = m ∧ ∀ z : List R, z.length = m →
      dot (sumChunks m k y) z = dot y ((List.range k).flatMap (fun _ => z)) := by
  obtain ⟨hl, hd⟩ := foldl_vadd_spec m k (zeros m) y (length_zeros m) hy
  exact ⟨hl, fun z hz => by rw [sumChunks, hd z hz, dot_zeros_left, zero_add]⟩

theorem sumChunks_one (m : Nat) (y : List R) (hy : y.length = m) : sumChunks m 1 y = y := by
  subst hy
  simp [sumChunks, chunks, vadd_zeros_left]

theorem flatMap_chunks_id {β : Type} (F : List β → List β) (m : Nat)
    (hF : ∀ c : List β, c.length = m → F c = c) (k : Nat) (y : List β) (hy : y.length = k * m) :
    (chunks m k y).flatMap F = y := by
  induction k generalizing y with
  | zero =>
    have : y = [] := List.length_eq_zero_iff.mp (by simpa using hy)
    simp [chunks, this]
  | succ k ih =>
    obtain ⟨c, l, rfl, hc, hl⟩ := exists_chunk m k y hy
    rw [chunks_succ_append m k c l hc, List.flatMap_cons, hF c hc, ih l hl]

/-- the `v = g` step: block-diagonal composition -/
theorem dot_flatMap_chunks (F : List R → List R) (inner : List Nat) (m mg : Nat)
    (hin : ∀ i ∈ inner, i < m) (hlen : inner.length = mg)
    (hF : ∀ y' : List R, y'.length = mg →
      (F y').length = m ∧ ∀ x' : List R, x'.length = m → dot (F y') x' = dot y' (gather inner x'))
    (k : Nat) (y : List R) (hy : y.length = k * mg) :
    ((chunks mg k y).flatMap F).length = k * m ∧ ∀ x : List R, x.length = k * m →
      dot ((chunks mg k y).flatMap F) x =
        dot y (gather ((List.range k).flatMap (fun o => inner.map (· + o * m))) x) := by
  induction k generalizing y with
  | zero => simp [chunks, gather]
  | succ k ih =>
    obtain ⟨y₁, y₂, rfl, hy₁, hy₂⟩ := exists_chunk mg k y hy
    obtain ⟨hFl, hFd⟩ := hF y₁ hy₁
    obtain ⟨ihl, ihd⟩ := ih y₂ hy₂
    rw [chunks_succ_append mg k y₁ y₂ hy₁, List.flatMap_cons]
    refine ⟨by rw [List.length_append, hFl, ihl, Nat.succ_mul, Nat.add_comm], fun x hx => ?_⟩
    obtain ⟨x₁, x₂, rfl, hx₁, hx₂⟩ := exists_chunk m k x hx
    have hshift : (List.range k).flatMap (fun o => inner.map (· + (o + 1) * m)) =
        ((List.range k).flatMap (fun o => inner.map (· + o * m))).map (· + x₁.length) := by
      simp only [List.map_flatMap, List.map_map, Function.comp_def, Nat.succ_mul, Nat.add_assoc, hx₁]
    rw [range_succ_flatMap, gather_append, hshift, gather_map_add_append]
    simp only [Nat.zero_mul, Nat.add_zero, List.map_id']
    rw [gather_append_left inner x₁ x₂ (hx₁ ▸ hin), dot_append _ _ _ _ (hFl.trans hx₁.symm),
      dot_append _ _ _ _ (by rw [hy₁, length_gather, hlen]), hFd x₁ hx₁, ihd x₂ hx₂]

/-- Induction along `compatSame`: besides the two empty shapes, an axis is either kept (`v = g`) or stretched
from `1`. -/
theorem compatSame_induction {P : ∀ vs gs, compatSame vs gs = true → Prop} (nil : P [] [] rfl)
    (keep : ∀ v vs gs h h', P vs gs h → P (v :: vs) (v :: gs) h')
    (stretch : ∀ g vs gs h h', 1 ≠ g → P vs gs h → P (1 :: vs) (g :: gs) h') :
    ∀ vs gs h, P vs gs h
  | [], [], _ => nil
  | [], _ :: _, h => by simp [compatSame] at h
  | _ :: _, [], h => by simp [compatSame] at h
  | v :: vs, g :: gs, h => by
    have h0 := h
    simp only [compatSame, Bool.and_eq_true, Bool.or_eq_true, decide_eq_true_eq] at h0
    have ih := compatSame_induction nil keep stretch vs gs h0.2
    by_cases hvg : v = g
    · subst hvg; exact keep v vs gs h0.2 h ih
    · obtain rfl : v = 1 := h0.1.resolve_left hvg
      exact stretch g vs gs h0.2 h hvg ih

theorem bidxSame_spec (vs gs : List Nat) (hc : compatSame vs gs = true) :
    (bidxSame vs gs).length = size gs ∧ ∀ i ∈ bidxSame vs gs, i < size vs := by
  induction vs, gs, hc using compatSame_induction with
  | nil => simp [bidxSame, size]
  | keep v vs gs _ _ ih =>
    obtain ⟨ihl, ihb⟩ := ih
    simp only [bidxSame, if_true, size_cons]
    refine ⟨length_flatMap_range _ (size gs) v (fun o => by simp [ihl]), ?_⟩
    intro i hi
    obtain ⟨o, ho, hio⟩ := List.mem_flatMap.mp hi
    obtain ⟨j, hj, rfl⟩ := List.mem_map.mp hio
    have hjm := ihb j hj
    have ho' : o < v := List.mem_range.mp ho
    calc j + o * size vs < size vs + o * size vs := by omega
      _ = (o + 1) * size vs := by rw [Nat.succ_mul]; omega
      _ ≤ v * size vs := Nat.mul_le_mul_right _ ho'
  | stretch g vs gs _ _ hg ih =>
    obtain ⟨ihl, ihb⟩ := ih
    simp only [bidxSame, hg, if_false, size_cons, Nat.one_mul]
    refine ⟨length_flatMap_range _ (size gs) g (fun _ => ihl), ?_⟩
    intro i hi
    obtain ⟨o, _, hio⟩ := List.mem_flatMap.mp hi
    exact ihb i hio

theorem rsumSame_spec (vs gs : List Nat) (hc : compatSame vs gs = true) (y : List R) (hy : y.length = size gs) :
    (rsumSame vs gs y).length = size vs ∧ ∀ x : List R, x.length = size vs →
      dot (rsumSame vs gs y) x = dot y (gather (bidxSame vs gs) x) := by
  induction vs, gs, hc using compatSame_induction generalizing y with
  | nil =>
    refine ⟨hy, fun x hx => ?_⟩
    obtain ⟨a, rfl⟩ := List.length_eq_one_iff.mp hy
    obtain ⟨b, rfl⟩ := List.length_eq_one_iff.mp hx
    simp [rsumSame, bidxSame, gather]
  | keep v vs gs hc _ ih =>
    obtain ⟨bl, bb⟩ := bidxSame_spec vs gs hc
    simp only [rsumSame, bidxSame, if_true, size_cons] at hy ⊢
    exact dot_flatMap_chunks (rsumSame vs gs) (bidxSame vs gs) (size vs) (size gs) bb bl ih v y hy
  | stretch g vs gs hc _ hg ih =>
    obtain ⟨bl, _⟩ := bidxSame_spec vs gs hc
    simp only [rsumSame, bidxSame, hg, if_false, size_cons, Nat.one_mul] at hy ⊢
    obtain ⟨sl, sd⟩ := sumChunks_spec (size gs) g y hy
    obtain ⟨l1, d1⟩ := ih (sumChunks (size gs) g y) sl
    refine ⟨l1, fun x hx => ?_⟩
    rw [d1 x hx, sd _ (by rw [length_gather, bl]), gather_flatMap]

theorem rsumSame_self (vs : List Nat) (y : List R) (hy : y.length = size vs) : rsumSame vs vs y = y := by
  induction vs generalizing y with
  | nil => rfl
  | cons v vs ih =>
    simp only [rsumSame, if_true]
    exact flatMap_chunks_id _ (size vs) (fun c hc => ih c hc) v y hy

theorem compatSame_self (vs : List Nat) : compatSame vs vs = true := by
  induction vs with
  | nil => rfl
  | cons v vs ih => simp [compatSame, ih]

/-- the two shortcuts of `reduce_broadcast` (equal shapes; equal rank) return what its general branch would -/
theorem reduceBroadcast_eq (vs gs : List Nat) (hle : vs.length ≤ gs.length) (y : List R)
    (hy : y.length = size gs) :
    reduceBroadcast vs gs y = some (rsumSame vs (gs.drop (gs.length - vs.length))
      (sumChunks (size (gs.drop (gs.length - vs.length))) (size (gs.take (gs.length - vs.length))) y)) := by
  have h0 : gs.length - vs.length = 0 →
      sumChunks (size (gs.drop (gs.length - vs.length))) (size (gs.take (gs.length - vs.length))) y = y := by
    intro hk
    rw [hk, List.drop_zero, List.take_zero]
    exact sumChunks_one _ _ hy
  unfold reduceBroadcast
  split_ifs with h h'
  · subst h
    rw [h0 (Nat.sub_self _), Nat.sub_self, List.drop_zero, rsumSame_self _ _ hy]
  · omega
  · show some (rsumSame vs _ (if gs.length - vs.length = 0 then y else _)) = _
    split_ifs with hk
    · rw [h0 hk]
    · rfl

/-- On broadcast-compatible shapes `reduce_broadcast` returns one vector `r` of the variable's size that satisfies
the adjoint identity against every `x`. -/
theorem reduceBroadcast_spec (vs gs : List Nat) (hc : compat vs gs = true) (y : List R)
    (hy : y.length = size gs) :
    ∃ r, reduceBroadcast vs gs y = some r ∧ r.length = size vs ∧
      ∀ x : List R, x.length = size vs → dot r x = dot y (gather (bidx vs gs) x) := by
  simp only [compat, Bool.and_eq_true, decide_eq_true_eq] at hc
  obtain ⟨hle, hcs⟩ := hc
  have hsz : y.length = size (gs.take (gs.length - vs.length)) * size (gs.drop (gs.length - vs.length)) := by
    rw [hy, ← size_append, List.take_append_drop]
  obtain ⟨bl, _⟩ := bidxSame_spec vs _ hcs
  obtain ⟨sl, sd⟩ := sumChunks_spec _ _ y hsz
  obtain ⟨l1, d1⟩ := rsumSame_spec vs _ hcs _ sl
  refine ⟨_, reduceBroadcast_eq vs gs hle y hy, l1, fun x hx => ?_⟩
  rw [d1 x hx, sd _ (by rw [length_gather, bl]), bidx, gather_flatMap]

end MG.Lin
