import MG.Proofs.C13
import MG.Proofs.Lemmas.InPlaceSteps
/-!
# C04/C05/C13 — in-place updates on a base with one live view, aimed at either

`b` owns C-contiguous memory and `v = vf(b)` is its one live view.  The whole `Tensor._in_place_op` of the engine model —
prelude, `DuplicatingGraph` with two placeholders (`mkDupGraph_one_view`), copy of the base, replay of the view op on
the copy, the guarded call, `UnView`, mirroring of the base, re-creation of the view — is evaluated once for both
targets (`family_setup`, `family_final`).  Its branches: NumPy's write-through (`inplace_through_view_refines_numpy`),
the update seen through the view (`inplace_on_base_seen_through_view`), and the two no-trace theorems for a rejected
statement, which rest on `restore_two_inverts`.  Core Lean only.
-/
namespace MG.C04V
open MG.Eng MG.ND MG.C13 MG.C04R

theorem nullGrads_t (xs : List Nat) : ∀ (h : Heap) (t : Nat),
    (xs.foldl nullGrad h).t t = if t ∈ xs then { h.t t with grad := none, viewGrad := none } else h.t t := by
  induction xs with
  | nil => intro h t; rfl
  | cons x xs ih =>
    intro h t
    rw [List.foldl_cons, ih]
    by_cases e : t = x
    · subst e; simp
    · simp only [List.mem_cons, e, false_or, nullGrad_t_ne _ _ _ e]

def G2 (b v pb pv : Nat) : DupGraph := ⟨[⟨b, pb, none⟩, ⟨v, pv, some b⟩]⟩

theorem G2_base (b v pb pv : Nat) : (G2 b v pb pv).base = ⟨b, pb, none⟩ := rfl

theorem G2_node (b v pb pv i : Nat) : (G2 b v pb pv).node? i =
    if b = i ∨ pb = i then some ⟨b, pb, none⟩ else if v = i ∨ pv = i then some ⟨v, pv, some b⟩ else none := by
  simp only [G2, DupGraph.node?, List.find?_cons, List.find?_nil]
  by_cases h1 : b = i ∨ pb = i <;> by_cases h2 : v = i ∨ pv = i <;>
    simp only [h1, h2, decide_true, decide_false, if_true, if_false]

theorem G2_node_b (b v pb pv : Nat) : (G2 b v pb pv).node? b = some ⟨b, pb, none⟩ := by
  rw [G2_node, if_pos (.inl rfl)]

theorem G2_node_v (b v pb pv : Nat) (h1 : v ≠ b) (h2 : v ≠ pb) : (G2 b v pb pv).node? v = some ⟨v, pv, some b⟩ := by
  rw [G2_node, if_neg (not_or.mpr ⟨Ne.symm h1, Ne.symm h2⟩), if_pos (.inl rfl)]

/-- the target of an update through the view: the view op replayed on the copy -/
theorem G2_target (H : Heap) (b v pb pv : Nat) (a : Arr) (vf : ViewFn) (fc : Option Bool) (d' : Desc)
    (h1 : v ≠ b) (h2 : v ≠ pb)
    (hrep : replayFn H pv = some (vf, fc)) (happ : vf.apply a.d = .ok (d', true)) :
    inPlaceTarget H (G2 b v pb pv) v a = .ok (⟨a.buf, d'⟩, [vf]) := by
  unfold inPlaceTarget DupGraph.pathToBase
  show List.foldlM _ _ ((DupGraph.pathToBase.go (G2 b v pb pv) (2 + 1) v).reverse.drop 1) = _
  unfold DupGraph.pathToBase.go
  simp only [G2_node_v b v pb pv h1 h2]
  unfold DupGraph.pathToBase.go
  simp only [G2_node_b, G2_base]
  simp [hrep, happ, pure, Except.pure, Bind.bind, Except.bind]

/-- the placeholder of each operand -/
def ph2 (b v pb pv i : Nat) : Nat := if i = b then pb else if i = v then pv else i

theorem G2_ph (b v pb pv i : Nat) (h1 : v ≠ b) (hv : v ≠ pb) (hi : i ≠ pb) (hi' : i ≠ pv) :
    (G2 b v pb pv).placeholderIfExists i = ph2 b v pb pv i := by
  unfold DupGraph.placeholderIfExists ph2
  by_cases e1 : i = b
  · rw [e1, G2_node_b, if_pos rfl]
  · by_cases e2 : i = v
    · rw [e2, G2_node_v b v pb pv h1 hv, if_neg h1, if_pos rfl]
    · rw [G2_node, if_neg (not_or.mpr ⟨Ne.symm e1, Ne.symm hi⟩), if_neg (not_or.mpr ⟨Ne.symm e2, Ne.symm hi'⟩), if_neg e1,
        if_neg e2]

theorem dfs_two (H : Heap) (b v pb pv : Nat) (hbpv : b ≠ pv) (hpp : pb ≠ pv)
    (hcp : (H.t pb).vchildren = [pv])
    (hcv : ∀ c ∈ (H.t pv).vchildren, c ≠ b ∧ c ≠ v ∧ c ≠ pb ∧ c ≠ pv) :
    (G2 b v pb pv).dfs H = [⟨b, pb, none⟩, ⟨v, pv, some b⟩] := by
  have n1 : (G2 b v pb pv).node? pb = some ⟨b, pb, none⟩ := by rw [G2_node, if_pos (.inr rfl)]
  have n2 : (G2 b v pb pv).node? pv = some ⟨v, pv, some b⟩ := by
    rw [G2_node, if_neg (not_or.mpr ⟨hbpv, hpp⟩), if_pos (.inr rfl)]
  unfold DupGraph.dfs
  show DupGraph.dfs.go _ H (H.next + 1 + 1) pb = _
  unfold DupGraph.dfs.go
  simp only [n1, hcp, List.flatMap_cons, List.flatMap_nil, List.append_nil]
  unfold DupGraph.dfs.go
  simp only [n2]
  have : (H.t pv).vchildren.flatMap (DupGraph.dfs.go (G2 b v pb pv) H H.next) = [] := by
    apply List.flatMap_eq_nil_iff.mpr
    intro c hc
    obtain ⟨c1, c2, c3, c4⟩ := hcv c hc
    apply dfs_go_none
    rw [G2_node, if_neg (not_or.mpr ⟨Ne.symm c1, Ne.symm c3⟩), if_neg (not_or.mpr ⟨Ne.symm c2, Ne.symm c4⟩)]
  rw [this]

/-- `restore_old_graph` on the two-node graph, written out -/
theorem restore_two (H : Heap) (b v pb pv : Nat)
    (hdfs : (G2 b v pb pv).dfs H = [⟨b, pb, none⟩, ⟨v, pv, some b⟩])
    (hpbb : (H.t pb).base = none) (hpvb : (H.t pv).base.isSome = true) :
    (G2 b v pb pv).restore H = (reroute (reroute H b pb) v pv).modT v ({ · with base := some b }) := by
  unfold DupGraph.restore
  rw [hdfs]
  simp [G2_base, hpbb, hpvb]

/-- the heap `DuplicatingGraph(b)` leaves for a base `b` with exactly one live view `v` (which has none) -/
def dup2 (h : Heap) (b v : Nat) : Heap :=
  let Ha := mkPh (nullGrad h b) b none
  let Hb := mkPh (nullGrad Ha v) v (some h.next)
  Hb.modT h.next ({ · with vchildren := [h.next + 1] })

theorem mkDupGraph_one_view (h : Heap) (live : List Nat) (b v : Nat)
    (hb : (h.t b).base = none) (hvb : (h.t v).base = some b) (hne : v ≠ b) (hbl : b < h.next) (hvl : v < h.next)
    (hcb : (h.t b).vchildren.filter live.contains = [v])
    (hcv : (h.t v).vchildren.filter live.contains = []) :
    mkDupGraph h live b = .ok (dup2 h b v, G2 b v h.next (h.next + 1)) := by
  have hpb : b ≠ h.next := by omega
  have hpv : v ≠ h.next := by omega
  have hb0 : ((nullGrad h b).t b).base = none := by simp [hb]
  -- `Ha`: the heap after the base's placeholder
  generalize hHa : mkPh (nullGrad h b) b none = Ha
  have aN : Ha.next = h.next + 1 := hHa ▸ mkPh_next _ _ _
  have hab : Ha.t b = (nullGrad h b).t b := hHa ▸ mkPh_t_ne (nullGrad h b) b none b hpb
  have hav : Ha.t v = h.t v := by rw [← hHa, mkPh_t_ne (nullGrad h b) b none v hpv, nullGrad_t_ne _ _ _ hne]
  have hfcb : familyChildren Ha live b = [v] := by
    unfold familyChildren liveChildren
    rw [hab, nullGrad_vchildren, hcb, hb0]
    simp [hav, hvb]
  have hfcv : liveChildren (mkPh (nullGrad Ha v) v (some h.next)) live v = [] := by
    unfold liveChildren
    rw [mkPh_t_ne (nullGrad Ha v) v _ v (by rw [show (nullGrad Ha v).next = _ from aN]; omega), nullGrad_vchildren, hav]
    exact hcv
  unfold mkDupGraph dup2
  show (match makePlaceholder (nullGrad h b) b ((nullGrad h b).t b).base with
    | .error e => _ | .ok (h, p) => _) = _
  rw [hb0, makePlaceholder_mkPh _ _ _ (by simp), hHa]
  show (match duplicate (Ha.next + 1 + 1) Ha live h.next b [⟨b, h.next, none⟩] with
    | .error e => _ | .ok (h, nodes) => _) = _
  rw [duplicate_eq_fold]
  simp only [hfcb, List.isEmpty_cons, Bool.false_eq_true, if_false, List.foldlM_cons, List.foldlM_nil]
  have hstep : dupStep (Ha.next + 1) live h.next b (Ha, [⟨b, h.next, none⟩]) v =
      .ok (mkPh (nullGrad Ha v) v (some h.next), [⟨b, h.next, none⟩, ⟨v, h.next + 1, some b⟩]) := by
    unfold dupStep
    show (match makePlaceholder (nullGrad Ha v) v (some h.next) with
      | .error e => _ | .ok (h, p) => _) = _
    rw [makePlaceholder_mkPh _ _ _ (by simp), show (nullGrad Ha v).next = _ from aN]
    simp only
    rw [duplicate_no_children _ _ _ _ _ _ hfcv]
    rfl
  rw [hstep]
  simp only [Bind.bind, Except.bind, pure, Except.pure]
  simp [G2, List.find?, Ne.symm hne]

/-- the tensors of the two-placeholder heap: `b`, `v` and everything else as the two `null_grad`s leave them; the
placeholders `h.next`, `h.next + 1` have their states, linked to each other -/
theorem dup2_t (h : Heap) (b v : Nat) (hne : v ≠ b) (hvl : v < h.next) (t : Nat) :
    (dup2 h b v).t t =
      if t = h.next then { (nullGrad h b).t b with base := none, vchildren := [h.next + 1] }
      else if t = h.next + 1 then { (nullGrad h v).t v with base := some h.next }
      else (nullGrad (nullGrad h b) v).t t := by
  have aN : (nullGrad (mkPh (nullGrad h b) b none) v).next = h.next + 1 := mkPh_next _ _ _
  have hav : (mkPh (nullGrad h b) b none).t v = h.t v :=
    (mkPh_t_ne (nullGrad h b) b none v (Nat.ne_of_lt hvl)).trans (nullGrad_t_ne h b v hne)
  unfold dup2
  by_cases e1 : t = h.next
  · rw [if_pos e1, e1, t_modT_self, mkPh_t_ne _ v _ _ (by rw [aN]; omega),
      nullGrad_t_ne _ v _ (Ne.symm (Nat.ne_of_lt hvl)), mkPh_t_at (nullGrad h b) b none h.next rfl]
  · rw [if_neg e1, t_modT_ne _ _ _ _ e1]
    by_cases e2 : t = h.next + 1
    · rw [if_pos e2, e2, mkPh_t_at _ v (some h.next) (h.next + 1) aN.symm, nullGrad_t_self, nullGrad_t_self, hav]
    · rw [if_neg e2, mkPh_t_ne _ v _ t (by rw [aN]; exact e2)]
      by_cases e3 : t = v
      · rw [e3, nullGrad_t_self, nullGrad_t_self, hav, nullGrad_t_ne h b v hne]
      · rw [nullGrad_t_ne _ v t e3, nullGrad_t_ne _ v t e3]
        exact mkPh_t_ne (nullGrad h b) b none t e1

/-- the variables of every op in the two-placeholder heap: re-routed once per placeholder whose tensor they consumed -/
theorem dup2_vars (h : Heap) (b v : Nat) (hbl : b < h.next) (hvl : v < h.next) (f : Nat) :
    ((dup2 h b v).op f).vars =
      (if f ∈ (h.t v).ops then List.map (swapVar v (h.next + 1)) else id)
        ((if f ∈ (h.t b).ops then List.map (swapVar b h.next) else id) (h.op f).vars) := by
  have e1 : ((mkPh (nullGrad h b) b none).op f).vars = _ := mkPh_vars (nullGrad h b) b none (Nat.ne_of_lt hbl) f
  have hav : ((mkPh (nullGrad h b) b none).t v).ops = (h.t v).ops := by
    rw [mkPh_t_ne (nullGrad h b) b none v (Nat.ne_of_lt hvl)]; exact nullGrad_ops h b v
  have e2 := mkPh_vars (nullGrad (mkPh (nullGrad h b) b none) v) v (some h.next)
    (by rw [nullGrad_next, mkPh_next]; exact Nat.ne_of_lt (Nat.lt_succ_of_lt hvl)) f
  rw [nullGrad_ops, hav, nullGrad_op, e1, nullGrad_ops, nullGrad_next, mkPh_next, nullGrad_next, nullGrad_op] at e2
  unfold dup2
  simp only [op_modT]
  rw [e2]
  split <;> split <;> rfl

theorem dup2_next (h : Heap) (b v : Nat) : (dup2 h b v).next = h.next + 2 := by simp [dup2]

theorem dup2_frame (h : Heap) (b v : Nat) (hbl : b < h.next) (hvl : v < h.next) : Frame h.next [] h (dup2 h b v) := by
  have aN : (nullGrad (mkPh (nullGrad h b) b none) v).next = h.next + 1 := mkPh_next _ _ _
  unfold dup2
  exact ((((frame_nullGrad h.next h b).trans
    (frame_mkPh (nullGrad h b) b none (Nat.le_refl _) (Nat.ne_of_lt hbl))).trans
    (frame_nullGrad h.next _ v)).trans
    (frame_mkPh (nullGrad (mkPh (nullGrad h b) b none) v) v (some h.next) (by rw [aN]; omega) (by rw [aN]; omega))).trans
    (frame_modT h.next _ h.next _ (.inl (Nat.le_refl _)))

theorem opStepUnview_eq (h : Heap) (bp pmv : Nat) (chain : List ViewFn) (mutArr : Arr) :
    opStepUnview h bp pmv chain mutArr =
      outCore h (.unview chain mutArr.d.strides) [bp, pmv] [bp, pmv] mutArr := rfl

theorem ite_map {α} (c : Prop) [Decidable c] (g : α → α) (l : List α) :
    (if c then List.map g else id) l = l.map (if c then g else id) := by
  split <;> simp

/-- **restore_two_inverts.**  On any heap that has the tensors and op records of the two-placeholder heap
`dup2 h b v` (the failure path runs on that heap plus the unused copy of the base's data), `restore_old_graph` gives
back every public tensor as the two `null_grad` calls left it — value, flag, base link, creator, consumers, view
children — touches no buffer, and every op has exactly the variables it had before the placeholders were made. -/
theorem restore_two_inverts (h C : Heap) (b v : Nat) (hne : v ≠ b) (hbl : b < h.next) (hvl : v < h.next)
    (hvb : (h.t v).base = some b)
    (hfresh : ∀ f, ∀ u ∈ (h.op f).vars, u ≠ h.next ∧ u ≠ h.next + 1)
    (hCt : ∀ t, C.t t = (dup2 h b v).t t) (hCop : ∀ f, C.op f = (dup2 h b v).op f) :
    let R := (reroute (reroute C b h.next) v (h.next + 1)).modT v ({ · with base := some b })
    (∀ t, t ≠ h.next → t ≠ h.next + 1 → R.t t = (nullGrad (nullGrad h b) v).t t) ∧ R.bufs = C.bufs ∧
    (∀ f, (R.op f).vars = (h.op f).vars) := by
  intro R
  refine ⟨fun t h1 h2 => ?_, by simp [R], fun f => ?_⟩
  · have hD : C.t t = (nullGrad (nullGrad h b) v).t t := by rw [hCt, dup2_t h b v hne hvl, if_neg h1, if_neg h2]
    by_cases ev : t = v
    · subst ev
      rw [show R.t t = _ from t_modT_self _ _ _, reroute_t, reroute_t, hD]
      -- the base link that the restoring loop writes back is the one `v` had
      have : ((nullGrad (nullGrad h b) t).t t).base = some b := by simp [nullGrad_t_ne _ _ _ hne, hvb]
      generalize (nullGrad (nullGrad h b) t).t t = x at this
      cases x; simp_all
    · rw [show R.t t = _ from t_modT_ne _ _ _ _ ev, reroute_t, reroute_t, hD]
  · -- two passes out (`dup2_vars`), two passes back; the passes for `b` and for `v` commute, so each pair cancels
    have e1 : (C.t h.next).ops = (h.t b).ops := by
      rw [hCt, dup2_t h b v hne hvl, if_pos rfl]; exact nullGrad_ops h b b
    have e2 : (C.t (h.next + 1)).ops = (h.t v).ops := by
      rw [hCt, dup2_t h b v hne hvl, if_neg (by omega), if_pos rfl]; exact nullGrad_ops h v v
    have hb : h.next ∉ (h.op f).vars := fun m => (hfresh f _ m).1 rfl
    have hv : h.next + 1 ∉ (h.op f).vars := fun m => (hfresh f _ m).2 rfl
    have hcomm : ∀ l : List Nat, (l.map (swapVar v (h.next + 1))).map (swapVar h.next b) =
        (l.map (swapVar h.next b)).map (swapVar v (h.next + 1)) := fun l => by
      rw [List.map_map, List.map_map]
      exact List.map_congr_left fun u _ => (swapVar_comm h.next b v (h.next + 1) u (by omega) (Ne.symm hne) (by omega))
    show ((reroute (reroute C b h.next) v (h.next + 1)).op f).vars = _
    rw [reroute_vars, reroute_t, reroute_vars, e1, e2, hCop, dup2_vars h b v hbl hvl f]
    by_cases k1 : f ∈ (h.t b).ops <;> by_cases k2 : f ∈ (h.t v).ops <;> simp only [k1, k2, if_true, if_false, id]
    · rw [hcomm, restore_reroutes_back _ _ _ hb, restore_reroutes_back _ _ _ hv]
    · exact restore_reroutes_back _ _ _ hb
    · exact restore_reroutes_back _ _ _ hv

/-- `b` owns the C-contiguous, writeable memory `⟨bufb, contig 0 shb⟩` and `v` is its one live view -/
structure Fam (h : Heap) (roots : List Nat) (b v bufb : Nat) (shb : Shape) : Prop where
  hbl : b < h.next
  hvl : v < h.next
  hne : v ≠ b
  hbase : (h.t b).base = none
  hvb : (h.t v).base = some b
  hdata : (h.t b).data = ⟨bufb, Desc.contig 0 shb⟩
  hbufb : bufb < h.next
  hro : h.ro.contains bufb = false
  hcb : (h.t b).vchildren.filter (liveSet h roots).contains = [v]
  hcv : (h.t v).vchildren.filter (liveSet h roots).contains = []
  /-- as `Owner.dead`: stale ids among `v`'s recorded children meet neither the family nor the two placeholders' ids -/
  hdead : ∀ c ∈ (h.t v).vchildren, c ≠ b ∧ c ≠ v ∧ c ≠ h.next ∧ c ≠ h.next + 1

/-- `v = vf(b)`, recorded by op `f`, is the window `dv` inside `b` -/
structure ViewOp (h : Heap) (v f : Nat) (shb : Shape) (vf : ViewFn) (fc : Option Bool) (dv : Desc) : Prop where
  hcr : (h.t v).creator = some f
  hfl : f < h.next
  hkind : (h.op f).kind = .view vf
  hfc : (h.op f).forceConst = fc
  happ : vf.apply (Desc.contig 0 shb) = .ok (dv, true)
  hin : ∀ p ∈ dv.positions, p < size shb

/-- the two targets of an update on the family, each with what `_in_place_op` derives from it: whether the target is
the base, the window of the copy that is written, and the view ops replayed to reach it -/
inductive Target (h : Heap) (b v : Nat) (shb : Shape) : Nat → Bool → Desc → List ViewFn → Prop
  | base : Target h b v shb b true (Desc.contig 0 shb) []
  | view {f : Nat} {vf : ViewFn} {fc : Option Bool} {dv : Desc} (ho : ViewOp h v f shb vf fc dv)
      (hnb : vf.isBroadcastTo = false) : Target h b v shb v false dv [vf]

theorem Target.mem {h : Heap} {b v : Nat} {shb : Shape} {tgt : Nat} {sib : Bool} {win : Desc} {chain : List ViewFn}
    (ht : Target h b v shb tgt sib win chain) : tgt = b ∨ tgt = v := by cases ht <;> simp

/-- `D` is the two-placeholder heap of the family: `b`, `v` and everything else are as the two `null_grad`s leave
them, the placeholders `h.next`, `h.next + 1` have their states, and nothing below `h.next` moved -/
structure Dup (h : Heap) (b v : Nat) (D : Heap) : Prop where
  next : D.next = h.next + 2
  t : ∀ t, D.t t =
    if t = h.next then { (nullGrad h b).t b with base := none, vchildren := [h.next + 1] }
    else if t = h.next + 1 then { (nullGrad h v).t v with base := some h.next }
    else (nullGrad (nullGrad h b) v).t t
  frame : Frame h.next [] h D

/-- … whichever member the update is aimed at (`tgt`, whose gradient the prelude has discarded) -/
theorem family_dup (h : Heap) (roots : List Nat) (b v bufb : Nat) (shb : Shape) (hf : Fam h roots b v bufb shb)
    (tgt : Nat) (ht : tgt = b ∨ tgt = v) : Dup h b v (dup2 (nullGrad h tgt) b v) := by
  refine ⟨dup2_next _ b v, fun t => ?_,
    (frame_nullGrad h.next h tgt).trans (dup2_frame (nullGrad h tgt) b v hf.hbl hf.hvl)⟩
  rw [dup2_t (nullGrad h tgt) b v hf.hne hf.hvl]
  have n3 : ∀ t, (nullGrad (nullGrad (nullGrad h tgt) b) v).t t = (nullGrad (nullGrad h b) v).t t := fun t => by
    rw [show nullGrad (nullGrad (nullGrad h tgt) b) v = [tgt, b, v].foldl nullGrad h from rfl,
      show nullGrad (nullGrad h b) v = [b, v].foldl nullGrad h from rfl, nullGrads_t, nullGrads_t]
    by_cases e1 : t = b <;> by_cases e2 : t = v <;> rcases ht with ht | ht <;> simp [e1, e2, ht]
  have nb : (nullGrad (nullGrad h tgt) b).t b = (nullGrad h b).t b := by
    rw [show nullGrad (nullGrad h tgt) b = [tgt, b].foldl nullGrad h from rfl,
      show nullGrad h b = [b].foldl nullGrad h from rfl, nullGrads_t, nullGrads_t]; simp
  have nv : (nullGrad (nullGrad h tgt) v).t v = (nullGrad h v).t v := by
    rw [show nullGrad (nullGrad h tgt) v = [tgt, v].foldl nullGrad h from rfl,
      show nullGrad h v = [v].foldl nullGrad h from rfl, nullGrads_t, nullGrads_t]; simp
  simp only [nullGrad_next, n3, nb, nv]

/-- the values the guarded call sees, for well-formed operands: `b` and `v` through their placeholders -/
theorem family_vals (h D : Heap) (b v : Nat) (hD : Dup h b v D)
    (inputs : List Operand) (hwf : ∀ o ∈ inputs, WFop h o) :
    let W := wrapOperands (copyH D b).1 (inputs.map (renameOp (ph2 b v h.next (h.next + 1))))
    W.2.map (fun i => W.1.val (W.1.t i).data) = inputs.map (operandVal h) := by
  obtain ⟨dN, dT, dF⟩ := hD
  obtain ⟨_, cN, cT, cB, _⟩ := copyH_spec D b
  obtain ⟨r1, r2⟩ := rename_vals h (copyH D b).1 (ph2 b v h.next (h.next + 1)) inputs hwf (by rw [cN, dN]; omega)
    (fun i hi => by
      rw [cN, dN, cT, dT]
      unfold ph2
      by_cases e1 : i = b
      · rw [if_pos e1, if_pos rfl, e1]; exact ⟨by omega, nullGrad_data h b b⟩
      · rw [if_neg e1]
        by_cases e2 : i = v
        · rw [if_pos e2, if_neg (by omega), if_pos rfl, e2]; exact ⟨by omega, nullGrad_data h v v⟩
        · rw [if_neg e2, if_neg (Nat.ne_of_lt hi), if_neg (by omega)]
          exact ⟨by omega, (nullGrad_data _ v i).trans (nullGrad_data h b i)⟩)
    (fun x hx => (cB x (by rw [dN]; omega)).trans (dF.buf x hx))
  exact (wrap_vals _ _ r1).trans r2

/-- **`_in_place_op` on the family, down to the guarded call**, for either target: the NumPy-level statement
`outWrite` on the operands' values and the target's window of `b` decides; if it is rejected the old graph is restored
on the heap that holds the unused copy, otherwise the rest of `_in_place_op` runs on what `Guarded` describes. -/
theorem family_setup (h : Heap) (roots : List Nat) (b v bufb : Nat) (shb : Shape)
    (hf : Fam h roots b v bufb shb) (tgt : Nat) (sib : Bool) (win : Desc) (chain : List ViewFn)
    (ht : Target h b v shb tgt sib win chain) (kind : Kind) (inputs : List Operand)
    (hwf : ∀ o ∈ inputs, WFop h o) :
    match outWrite kind (inputs.map (operandVal h)) win.shape (h.read ⟨bufb, win⟩) none with
    | .error e => inPlaceOp h roots tgt kind inputs =
        .error (e, (G2 b v h.next (h.next + 1)).restore (copyH (dup2 (nullGrad h tgt) b v) b).1)
    | .ok vals => ∃ D W h5 r, Dup h b v D ∧ Guarded D b W kind win vals none (D.t b).const h5 r ∧
        inPlaceOp h roots tgt kind inputs =
          mutateFinish h5 (G2 b v h.next (h.next + 1)) tgt sib none chain ⟨D.next, Desc.contig 0 shb⟩ r := by
  have hm := ht.mem
  -- (`id`: `hf` itself stays in the context)
  obtain ⟨hbl, hvl, hne, hbase, hvb, hdata, hbufb, hro, hcb, hcv, hdead⟩ := id hf
  -- the duplicated heap `D`
  have hdup := mkDupGraph_one_view (nullGrad h tgt) (liveSet h roots) b v (by rw [nullGrad_base, hbase])
    (by rw [nullGrad_base, hvb]) hne hbl hvl (by rw [nullGrad_vchildren]; exact hcb) (by rw [nullGrad_vchildren]; exact hcv)
  have dD := family_dup h roots b v bufb shb hf tgt hm
  generalize hD : dup2 (nullGrad h tgt) b v = D at hdup dD ⊢
  have hvals := family_vals h D b v dD inputs hwf
  obtain ⟨dN, dT, dF⟩ := id dD
  generalize hins : inputs.map (renameOp (ph2 b v h.next (h.next + 1))) = ins at hvals
  have dbd : (D.t b).data = ⟨bufb, Desc.contig 0 shb⟩ := by
    rw [dT, if_neg (by omega), if_neg (by omega), nullGrad_data, nullGrad_data, hdata]
  -- the copy
  obtain ⟨cA, cN, cT, _, cR⟩ := copyH_spec D b
  have hcA : (copyH D b).2 = ⟨D.next, Desc.contig 0 shb⟩ := by rw [cA, dbd]; rfl
  have eW : Ext (copyH D b).1 (wrapOperands (copyH D b).1 ins).1 := wrap_ext ins _
  have hWcopy : (wrapOperands (copyH D b).1 ins).1.buf D.next = h.read ⟨bufb, Desc.contig 0 shb⟩ := by
    rw [eW.buf _ (by rw [cN]; omega), cR, dbd]
    simp only [Heap.read, dF.buf bufb hbufb]
  have hro' : (copyH D b).1.ro.contains (D.t b).data.buf = false := by
    rw [dbd]; show D.ro.contains bufb = false; rw [dF.ro]; exact hro
  have hmap : inputs.map (renameOp (G2 b v h.next (h.next + 1)).placeholderIfExists) = ins :=
    hins ▸ List.map_congr_left fun o ho' => by
      cases o with
      | t i =>
        have := (hwf _ ho').1
        show Operand.t _ = Operand.t _
        rw [G2_ph b v h.next (h.next + 1) i hne (by omega) (by omega) (by omega)]
      | lit w => rfl
  -- what depends on the target: prelude, position in the graph, the window
  have key : Prepared h roots tgt b sib D (G2 b v h.next (h.next + 1)) win chain ∧ ∀ p ∈ win.positions, p < size shb := by
    have hcc : (D.t b).data.d.isCContig = true := by rw [dbd]; simp [Desc.isCContig, Desc.contig]
    cases ht with
    | base =>
      refine ⟨⟨prelude_eq h _ b (by simp [hbase]) (by simp [hbase]), by rw [nullGrad_base, hbase]; rfl, by rw [nullGrad_base, hbase]; rfl,
        hdup, rfl, hcc, ⟨_, G2_node_b ..⟩, ?_, rfl, hro'⟩, positions_contig_lt shb⟩
      rw [inPlaceTarget_base _ _ b _ _ (G2_node_b ..) rfl, hcA]
    | @view f vf fc dv ho hnb =>
      have hreach : reachesViaViews (nullGrad h v) (liveSet h roots) (nullGrad h v).fuel b v = true := by
        show reachesViaViews (nullGrad h v) (liveSet h roots) (h.next + 1 + 1) b v = true
        unfold reachesViaViews liveChildren
        rw [nullGrad_vchildren h v b, hcb]; simp
      have hrep : replayFn (copyH D b).1 (h.next + 1) = some (vf, fc) := by
        unfold replayFn
        rw [cT, dT, if_neg (by omega), if_pos rfl]
        simp only [nullGrad_t_self, ho.hcr]
        show (match (D.op f).kind with | .view vf => some (vf, (D.op f).forceConst) | _ => none) = _
        rw [(dF.op f ho.hfl).1, (dF.op f ho.hfl).2, ho.hkind, ho.hfc]
      refine ⟨⟨prelude_eq h _ v (by simp [ho.hcr]) (fun b' hb' => by rw [hvb] at hb'; cases hb'; exact hreach), by rw [nullGrad_base, hvb]; rfl, by rw [nullGrad_base, hvb]; rfl,
        hdup, rfl, hcc, ⟨_, G2_node_v b v _ _ hne (by omega)⟩, ?_, by simp [hnb], hro'⟩, ho.hin⟩
      rw [G2_target _ b v _ _ _ vf fc win hne (by omega) hrep (by rw [hcA]; exact ho.happ), hcA]
  obtain ⟨hp, hin⟩ := key
  have hread : (wrapOperands (copyH D b).1 ins).1.read ⟨D.next, win⟩ = h.read ⟨bufb, win⟩ :=
    read_window_of_copy _ h D.next bufb shb win hWcopy hin
  have hev := inPlaceOp_prepared hp kind inputs none (h.read ⟨bufb, win⟩) (by rw [hmap]; exact hvals)
    (by rw [hmap]; exact hread)
  rw [hmap, hcA] at hev
  cases hO : outWrite kind (inputs.map (operandVal h)) win.shape (h.read ⟨bufb, win⟩) none with
  | error e => rw [hO] at hev; exact hev
  | ok vals =>
    rw [hO] at hev
    exact ⟨D, _, _, _, dD, guarded_spec D b ins kind win vals none (D.t b).const, hev⟩

/-- `restore_old_graph`, run on the heap the failure path runs it on (the two-placeholder heap plus the unused copy of
the base's data), undoes the duplication: every tensor is as the `null_grad` calls of the attempt left it -/
theorem family_restore (h : Heap) (roots : List Nat) (b v bufb : Nat) (shb : Shape) (hf : Fam h roots b v bufb shb)
    (tgt : Nat) (hm : tgt = b ∨ tgt = v) (hfresh : ∀ f, ∀ u ∈ (h.op f).vars, u ≠ h.next ∧ u ≠ h.next + 1) :
    let hr := (G2 b v h.next (h.next + 1)).restore (copyH (dup2 (nullGrad h tgt) b v) b).1
    (∀ t, t < h.next → hr.t t = (nullGrad (nullGrad h b) v).t t) ∧
    (∀ b', b' < h.next → hr.buf b' = h.buf b') ∧
    (∀ f, (hr.op f).vars = (h.op f).vars) := by
  obtain ⟨hbl, hvl, hne, hbase, hvb, hdata, hbufb, hro, hcb, hcv, hdead⟩ := id hf
  obtain ⟨dN, dT, dF⟩ := family_dup h roots b v bufb shb hf tgt hm
  obtain ⟨r1, r2, r3⟩ := restore_two_inverts (nullGrad h tgt) (copyH (dup2 (nullGrad h tgt) b v) b).1 b v hne hbl hvl
    (by rw [nullGrad_base]; exact hvb) hfresh (copyH_spec _ b).t (copyH_op _ b)
  have dT0 := dup2_t (nullGrad h tgt) b v hne hvl
  simp only [nullGrad_next] at r1 r2 r3 dT0
  generalize dup2 (nullGrad h tgt) b v = D at dT dF dN r1 r2 r3 dT0 ⊢
  obtain ⟨_, _, cT, cB, _⟩ := copyH_spec D b
  intro hr
  have e : hr = (reroute (reroute (copyH D b).1 b h.next) v (h.next + 1)).modT v ({ · with base := some b }) :=
    restore_two _ b v h.next (h.next + 1)
      (dfs_two _ b v h.next (h.next + 1) (by omega) (by omega) (by rw [cT, dT, if_pos rfl])
        (by rw [cT, dT, if_neg (by omega), if_pos rfl]; simpa using hdead))
      (by rw [cT, dT, if_pos rfl]) (by rw [cT, dT, if_neg (by omega), if_pos rfl]; rfl)
  rw [e]
  refine ⟨fun t ht => ?_, fun b' hb' => ?_, r3⟩
  · have e1 := dT0 t
    have e2 := dT t
    simp only [show t ≠ h.next by omega, show t ≠ h.next + 1 by omega, if_false] at e1 e2
    rw [r1 t (by omega) (by omega), ← e1, e2]
  · have : ∀ X : Heap, X.buf b' = (lookup b' X.bufs).getD [] := fun _ => rfl
    rw [this, r2, ← this]
    exact (cB b' (by rw [dN]; omega)).trans (dF.buf b' hb')

/-- **inplace_on_base_with_view_failure_leaves_no_trace.**  A failing in-place update on a base `b` that has one live
view `v` (the NumPy-level statement is rejected: bad index, shapes that do not broadcast, …) raises that error and
leaves every tensor that existed exactly as the two `null_grad` calls of the attempt leave it (value, flag, base link,
creator, consumers, view children — only stale gradients are gone), every buffer unchanged and every op with exactly
its old variables: nothing refers to the two placeholders any more. -/
theorem inplace_on_base_with_view_failure_leaves_no_trace (h : Heap) (roots : List Nat) (b v bufb : Nat) (shb : Shape)
    (kind : Kind) (inputs : List Operand) (e : Err)
    (hbl : b < h.next) (hvl : v < h.next) (hne : v ≠ b)
    (hbase : (h.t b).base = none) (hvb : (h.t v).base = some b)
    (hdata : (h.t b).data = ⟨bufb, Desc.contig 0 shb⟩) (hbufb : bufb < h.next)
    (hro : h.ro.contains bufb = false)
    (hcb : (h.t b).vchildren.filter (liveSet h roots).contains = [v])
    (hcv : (h.t v).vchildren.filter (liveSet h roots).contains = [])
    (hdead : ∀ c ∈ (h.t v).vchildren, c ≠ b ∧ c ≠ v ∧ c ≠ h.next ∧ c ≠ h.next + 1)
    (hwf : ∀ o ∈ inputs, WFop h o)
    (hfresh : ∀ f, ∀ u ∈ (h.op f).vars, u ≠ h.next ∧ u ≠ h.next + 1)
    (hw : outWrite kind (inputs.map (operandVal h)) shb (h.read (h.t b).data) none = .error e) :
    ∃ hf, inPlaceOp h roots b kind inputs = .error (e, hf) ∧
      (∀ t, t < h.next → hf.t t = (nullGrad (nullGrad h b) v).t t) ∧
      (∀ b', b' < h.next → hf.buf b' = h.buf b') ∧
      (∀ f, (hf.op f).vars = (h.op f).vars) := by
  have hf : Fam h roots b v bufb shb := ⟨hbl, hvl, hne, hbase, hvb, hdata, hbufb, hro, hcb, hcv, hdead⟩
  have hs := family_setup h roots b v bufb shb hf b true _ [] .base kind inputs hwf
  rw [show outWrite kind (inputs.map (operandVal h)) (Desc.contig 0 shb).shape (h.read ⟨bufb, Desc.contig 0 shb⟩) none
    = .error e by rw [← hdata]; exact hw] at hs
  exact ⟨_, hs, family_restore h roots b v bufb shb hf b (.inl rfl) hfresh⟩

/-- **inplace_through_view_failure_leaves_no_trace.**  The same for a failing in-place update aimed *through the view*
`v` of `b`: the NumPy-level statement on `v`'s window is rejected, the update raises that error, and every tensor that
existed is as the `null_grad` calls of the attempt leave it — `v` is still a view of `b`, both keep their values,
flags, creators, consumers and view children — no buffer changed and every op has exactly its old variables. -/
theorem inplace_through_view_failure_leaves_no_trace (h : Heap) (roots : List Nat) (b v f bufb : Nat) (shb : Shape)
    (vf : ViewFn) (fc : Option Bool) (dv : Desc) (kind : Kind) (inputs : List Operand) (e : Err)
    (hbl : b < h.next) (hvl : v < h.next) (hne : v ≠ b)
    (hbase : (h.t b).base = none) (hvb : (h.t v).base = some b)
    (hcr : (h.t v).creator = some f) (hfl : f < h.next)
    (hkind : (h.op f).kind = .view vf) (hfc : (h.op f).forceConst = fc)
    (hdata : (h.t b).data = ⟨bufb, Desc.contig 0 shb⟩) (hbufb : bufb < h.next)
    (hro : h.ro.contains bufb = false)
    (hcb : (h.t b).vchildren.filter (liveSet h roots).contains = [v])
    (hcv : (h.t v).vchildren.filter (liveSet h roots).contains = [])
    (hdead : ∀ c ∈ (h.t v).vchildren, c ≠ b ∧ c ≠ v ∧ c ≠ h.next ∧ c ≠ h.next + 1)
    (happ : vf.apply (Desc.contig 0 shb) = .ok (dv, true)) (hnb : vf.isBroadcastTo = false)
    (hin : ∀ p ∈ dv.positions, p < size shb)
    (hwf : ∀ o ∈ inputs, WFop h o)
    (hfresh : ∀ f, ∀ u ∈ (h.op f).vars, u ≠ h.next ∧ u ≠ h.next + 1)
    (hw : outWrite kind (inputs.map (operandVal h)) dv.shape (h.read ⟨bufb, dv⟩) none = .error e) :
    ∃ hf, inPlaceOp h roots v kind inputs = .error (e, hf) ∧
      (∀ t, t < h.next → hf.t t = (nullGrad (nullGrad h b) v).t t) ∧
      (∀ b', b' < h.next → hf.buf b' = h.buf b') ∧
      (∀ f, (hf.op f).vars = (h.op f).vars) := by
  have hf : Fam h roots b v bufb shb := ⟨hbl, hvl, hne, hbase, hvb, hdata, hbufb, hro, hcb, hcv, hdead⟩
  have hs := family_setup h roots b v bufb shb hf v false dv [vf]
    (.view ⟨hcr, hfl, hkind, hfc, happ, hin⟩ hnb) kind inputs hwf
  rw [hw] at hs
  exact ⟨_, hs, family_restore h roots b v bufb shb hf v (.inr rfl) hfresh⟩

/-- **the common end of the two refinement theorems.**  `X` is the heap before the mirroring of the base and `m` the
temporary `b` takes over: `m` holds the written copy and below the copy nothing moved since the duplication.  Then the
walk over the graph re-creates `v` as the window `dv` of `b`'s new memory, still a view of `b`; `b` has the
temporary's array and flag and owns its memory; no buffer is touched after `X`; nothing else that existed changed. -/
theorem family_final (h D : Heap) (roots : List Nat) (b v f bufb : Nat) (shb : Shape) (vf : ViewFn) (fc : Option Bool)
    (dv : Desc) (hf : Fam h roots b v bufb shb) (ho : ViewOp h v f shb vf fc dv) (hD : Dup h b v D)
    (X : Heap) (m : Nat) (hmX : h.next + 2 ≤ m) (hX : Frame (h.next + 2) [] D X)
    (hmd : (X.t m).data = ⟨h.next + 2, Desc.contig 0 shb⟩) (hmb : (X.t m).base = none) :
    let H8 : Heap := adopt X b m
    ∃ F, recreateViews H8 ((G2 b v h.next (h.next + 1)).dfs H8) = .ok F ∧
      (F.t v).data = ⟨h.next + 2, dv⟩ ∧ (F.t v).base = some b ∧
      (F.t b).data = ⟨h.next + 2, Desc.contig 0 shb⟩ ∧ (F.t b).const = (X.t m).const ∧ (F.t b).base = none ∧
      F.bufs = X.bufs ∧ Frame h.next [b, v] h F := by
  intro H8
  obtain ⟨hbl, hvl, hne, hbase, hvb, hdata, hbufb, hro, hcb, hcv, hdead⟩ := id hf
  obtain ⟨dN, dT, dF⟩ := hD
  have f8 : Frame (h.next + 2) [b] D H8 := hX.trans (frame_adopt X b m hmX)
  have h8b : H8.t b = X.t m := by rw [t_adopt X b m b (by omega), if_pos rfl]
  have hrep : replayFn H8 v = some (vf, fc) := by
    unfold replayFn
    rw [(f8.tens v (by omega) (by simp [hne])).creator, dT, if_neg (by omega), if_neg (by omega),
      nullGrad_creator, nullGrad_creator, ho.hcr]
    show (match (H8.op f).kind with | .view vf => some (vf, (H8.op f).forceConst) | _ => none) = _
    have := ho.hfl
    rw [(f8.op f (by omega)).1, (f8.op f (by omega)).2, (dF.op f ho.hfl).1, (dF.op f ho.hfl).2, ho.hkind, ho.hfc]
  have hdfs : (G2 b v h.next (h.next + 1)).dfs H8 = [⟨b, h.next, none⟩, ⟨v, h.next + 1, some b⟩] := by
    apply dfs_two H8 b v h.next (h.next + 1) (by omega) (by omega)
    · rw [(f8.tens h.next (by omega) (by simp; omega)).vchildren, dT, if_pos rfl]
    · rw [(f8.tens (h.next + 1) (by omega) (by simp; omega)).vchildren, dT, if_neg (by omega), if_pos rfl]
      simpa [nullGrad_vchildren h v v] using hdead
  have hn8 : h.next + 2 ≤ H8.next := dN ▸ hX.next
  obtain ⟨F, hF, fv, fbd, fbc, fbb, fbufs, fF⟩ := recreate_view H8 b v h.next (h.next + 1) vf fc dv hne (by omega)
    (by omega) hrep (by rw [h8b, hmd]; exact ho.happ) (by rw [h8b, hmb])
  refine ⟨F, hdfs ▸ hF, by rw [fv, h8b, hmd], by rw [fv], by rw [fbd, h8b, hmd], by rw [fbc, h8b], fbb, fbufs, ?_⟩
  exact ((dF.trans (f8.mono (by omega) fun _ m => m)).trans (fF.mono (by omega) fun _ m => m)).mono (Nat.le_refl _)
    fun t ht => by simp at ht ⊢; omega

/-- the base in the two-placeholder heap: its array, its flag (also on its placeholder), its values -/
theorem family_base (h D : Heap) (roots : List Nat) (b v bufb : Nat) (shb : Shape) (hf : Fam h roots b v bufb shb)
    (hD : Dup h b v D) :
    (D.t b).data = ⟨bufb, Desc.contig 0 shb⟩ ∧ (D.t b).const = (h.t b).const ∧ (D.t h.next).const = (h.t b).const ∧
    D.read (D.t b).data = h.read (h.t b).data := by
  obtain ⟨_, dT, dF⟩ := hD
  have hbl := hf.hbl
  have e : D.t b = (nullGrad (nullGrad h b) v).t b := by rw [dT, if_neg (by omega), if_neg (by omega)]
  have hd : (D.t b).data = ⟨bufb, Desc.contig 0 shb⟩ := by
    rw [e, nullGrad_data, nullGrad_data, hf.hdata]
  refine ⟨hd, ?_, ?_, ?_⟩
  · rw [e, nullGrad_const, nullGrad_const]
  · rw [dT, if_pos rfl]; exact nullGrad_const h b b
  · rw [hd, hf.hdata]; simp only [Heap.read, dF.buf bufb hf.hbufb]

/-- **inplace_through_view_refines_numpy.**  An in-place update whose *target is a view*: `b` owns C-contiguous,
writeable memory, `v = vf(b)` is its one live view (a window `dv` of pairwise distinct positions inside `b`),
and the statement `v[key] = …` / `v op= …` / `ufunc(…, out=v)` is run with any operands (`b` and `v` themselves
included).  If the NumPy-level statement on `v`'s values yields `vals`, then `_in_place_op` succeeds and, on the
*same tensor ids*: `v` reads `vals` and is still a view of `b`; `b` reads its old values with exactly the window
`dv` overwritten by `vals` (NumPy's write-through) and still owns its memory with its constant flag; every buffer
that existed before is unchanged; every other existing tensor keeps its array and flag. -/
theorem inplace_through_view_refines_numpy (h : Heap) (roots : List Nat) (b v f bufb : Nat) (shb : Shape)
    (vf : ViewFn) (fc : Option Bool) (dv : Desc) (kind : Kind) (inputs : List Operand) (vals : List Int)
    (hbl : b < h.next) (hvl : v < h.next) (hne : v ≠ b)
    (hbase : (h.t b).base = none) (hvb : (h.t v).base = some b)
    (hcr : (h.t v).creator = some f) (hfl : f < h.next)
    (hkind : (h.op f).kind = .view vf) (hfc : (h.op f).forceConst = fc)
    (hdata : (h.t b).data = ⟨bufb, Desc.contig 0 shb⟩) (hbufb : bufb < h.next)
    (hro : h.ro.contains bufb = false)
    (hcb : (h.t b).vchildren.filter (liveSet h roots).contains = [v])
    (hcv : (h.t v).vchildren.filter (liveSet h roots).contains = [])
    (hdead : ∀ c ∈ (h.t v).vchildren, c ≠ b ∧ c ≠ v ∧ c ≠ h.next ∧ c ≠ h.next + 1)
    (happ : vf.apply (Desc.contig 0 shb) = .ok (dv, true)) (hnb : vf.isBroadcastTo = false)
    (hnd : dv.positions.Nodup) (hin : ∀ p ∈ dv.positions, p < size shb)
    (hwf : ∀ o ∈ inputs, WFop h o)
    (hw : outWrite kind (inputs.map (operandVal h)) dv.shape (h.read ⟨bufb, dv⟩) none = .ok vals)
    (hvll : vals.length = dv.positions.length) :
    ∃ h', inPlaceOp h roots v kind inputs = .ok h' ∧
      h'.val (h'.t v).data = (dv.shape, vals) ∧ (h'.t v).base = some b ∧
      h'.val (h'.t b).data = (shb, scatter (h.read (h.t b).data) dv.positions vals) ∧
      (h'.t b).base = none ∧ (h'.t b).const = (h.t b).const ∧
      (∀ b', b' < h.next → h'.buf b' = h.buf b') ∧
      (∀ t, t < h.next → t ≠ b → t ≠ v → (h'.t t).data = (h.t t).data ∧ (h'.t t).const = (h.t t).const) := by
  have hf : Fam h roots b v bufb shb := ⟨hbl, hvl, hne, hbase, hvb, hdata, hbufb, hro, hcb, hcv, hdead⟩
  have ho : ViewOp h v f shb vf fc dv := ⟨hcr, hfl, hkind, hfc, happ, hin⟩
  have hs := family_setup h roots b v bufb shb hf v false dv [vf] (.view ho hnb) kind inputs hwf
  rw [hw] at hs
  obtain ⟨D, W, h5, r, hD, G, hs⟩ := hs
  obtain ⟨bd, bc, bpc, br⟩ := family_base h D roots b v bufb shb hf hD
  have dN := hD.next
  obtain ⟨_, gnext, gabove, gmut, _, _, gframe, _, gcopy⟩ := G
  rw [dN] at hs gabove gmut gframe gcopy
  -- `mutateFinish` for a target that is not the base, no mask, unfolded; `opStepUnview` is `outCore`
  -- (`opStepUnview_eq`).  `UnView(base placeholder, mutant)`: the temporary `U.2` around the whole copy
  replace hs : inPlaceOp h roots v kind inputs =
      (let U := outCore h5 (.unview [vf] (Desc.contig 0 shb).strides) [h.next, r] [h.next, r] ⟨h.next + 2, Desc.contig 0 shb⟩
       let H8 : Heap := adopt U.1 b U.2
       recreateViews H8 ((G2 b v h.next (h.next + 1)).dfs H8)) := hs
  obtain ⟨u1, _, u3, _, u5, _, _⟩ := outCore_spec h5 (.unview [vf] (Desc.contig 0 shb).strides) [h.next, r] [h.next, r]
    ⟨h.next + 2, Desc.contig 0 shb⟩ none
  have uF := frame_outCore (n := h.next + 2) h5 (.unview [vf] (Desc.contig 0 shb).strides) [h.next, r] [h.next, r]
    ⟨h.next + 2, Desc.contig 0 shb⟩ none (by rw [gnext]; omega)
  generalize outCore h5 (.unview [vf] (Desc.contig 0 shb).strides) [h.next, r] [h.next, r]
    ⟨h.next + 2, Desc.contig 0 shb⟩ = U at hs u1 u3 u5 uF
  have hpc : (h5.t h.next).const = (h.t b).const := by
    rw [(gframe.tens h.next (by omega) (by simp)).const, bpc]
  obtain ⟨F, hF, fvd, fvb, fbd, fbc, fbb, fbufs, fF⟩ := family_final h D roots b v f bufb shb vf fc dv hf ho hD
    U.1 U.2 (by rw [u1, gnext]; omega) (gframe.trans uF) (by rw [u1, u5]) (by rw [u1, u5])
  have hcopy : F.buf (h.next + 2) = scatter (h.read (h.t b).data) dv.positions vals := by
    simp only [Heap.buf, fbufs, u3]; exact gcopy.trans (by rw [br])
  have hlen : (h.read (h.t b).data).length = size shb := by rw [read_length, hdata]; rfl
  refine ⟨F, hs.trans hF, ?_, fvb, ?_, fbb, ?_, fF.buf, fun t ht h1 h2 => ?_⟩
  · simp only [Heap.val, fvd]
    rw [read_scatter F _ dv _ vals hcopy hnd hvll fun p hp => by rw [hlen]; exact hin p hp]
  · simp only [Heap.val, fbd]
    rw [read_contig_whole F _ shb (by rw [hcopy, scatter_length, hlen]), hcopy]
    rfl
  · rw [fbc, u1, u5]; simp [hpc, gmut, bc]
  · have := fF.tens t ht (by simp [h1, h2])
    exact ⟨this.data, this.const⟩

/-- a leaf with values [3, 4, 5] -/
def leafHeap : Heap :=
  { tens := [(0, { data := ⟨5, Desc.contig 0 [3]⟩, const := false })], bufs := [(5, [3, 4, 5])], next := 6 }

/-- … and its view `x[0:2]` (tensor 7, created by op 6), built by the model's own `opStep` -/
def vHeap : Heap := match opStep leafHeap (.view (.getitem [.slice (some 0) (some 2) 1])) [.t 0] with
  | .ok (h, _) => h | .error _ => leafHeap

/-- the premises of `inplace_through_view_refines_numpy` are satisfiable, and the conclusion is what the executable
model computes: `v *= 10` on the view `v = x[0:2]` of `x = [3, 4, 5]` -/
example :
    (vHeap.t 0).base = none ∧ (vHeap.t 7).base = some 0 ∧ (vHeap.t 7).creator = some 6 ∧
    (vHeap.op 6).kind = .view (.getitem [.slice (some 0) (some 2) 1]) ∧
    (vHeap.t 0).data = ⟨5, Desc.contig 0 [3]⟩ ∧
    (vHeap.t 0).vchildren.filter (liveSet vHeap [0, 7]).contains = [7] ∧
    (vHeap.t 7).vchildren.filter (liveSet vHeap [0, 7]).contains = [] ∧
    (ViewFn.getitem [.slice (some 0) (some 2) 1]).apply (Desc.contig 0 [3]) = .ok (⟨0, [2], [1]⟩, true) ∧
    (⟨0, [2], [1]⟩ : Desc).positions = [0, 1] ∧
    outWrite .mul ([Operand.t 7, Operand.lit ([], [10])].map (operandVal vHeap)) [2] (vHeap.read ⟨5, ⟨0, [2], [1]⟩⟩) none
      = .ok [30, 40] ∧
    (match inPlaceOp vHeap [0, 7] 7 .mul [.t 7, .lit ([], [10])] with
      | .ok h' => h'.val (h'.t 7).data == ([2], [30, 40]) && h'.val (h'.t 0).data == ([3], [30, 40, 5]) &&
          (h'.t 7).base == some 0 && (h'.t 0).base.isNone
      | .error _ => false) = true ∧
    scatter [3, 4, 5] [0, 1] [30, 40] = [30, 40, 5] := by
  refine ⟨rfl, rfl, rfl, rfl, rfl, rfl, rfl, rfl, rfl, rfl, rfl, rfl⟩

/-- **inplace_on_base_seen_through_view.**  The other direction of view semantics: the in-place update targets the
*base* `b` (which owns C-contiguous, writeable memory) while `v = vf(b)` is its one live view.  If the NumPy-level
statement on `b`'s values yields `vals`, then `_in_place_op` succeeds and, on the same tensor ids, `b` reads `vals`,
`v` is still a view of `b` and reads exactly its window of the new values (`vals` gathered at the window's
positions), flags are kept, every buffer that existed before is unchanged and every other tensor keeps its array
and flag. -/
theorem inplace_on_base_seen_through_view (h : Heap) (roots : List Nat) (b v f bufb : Nat) (shb : Shape)
    (vf : ViewFn) (fc : Option Bool) (dv : Desc) (kind : Kind) (inputs : List Operand) (vals : List Int)
    (hbl : b < h.next) (hvl : v < h.next) (hne : v ≠ b)
    (hbase : (h.t b).base = none) (hvb : (h.t v).base = some b)
    (hcr : (h.t v).creator = some f) (hfl : f < h.next)
    (hkind : (h.op f).kind = .view vf) (hfc : (h.op f).forceConst = fc)
    (hdata : (h.t b).data = ⟨bufb, Desc.contig 0 shb⟩) (hbufb : bufb < h.next)
    (hro : h.ro.contains bufb = false)
    (hcb : (h.t b).vchildren.filter (liveSet h roots).contains = [v])
    (hcv : (h.t v).vchildren.filter (liveSet h roots).contains = [])
    (hdead : ∀ c ∈ (h.t v).vchildren, c ≠ b ∧ c ≠ v ∧ c ≠ h.next ∧ c ≠ h.next + 1)
    (happ : vf.apply (Desc.contig 0 shb) = .ok (dv, true))
    (hin : ∀ p ∈ dv.positions, p < size shb)
    (hwf : ∀ o ∈ inputs, WFop h o)
    (hw : outWrite kind (inputs.map (operandVal h)) shb (h.read (h.t b).data) none = .ok vals)
    (hvll : vals.length = size shb) :
    ∃ h', inPlaceOp h roots b kind inputs = .ok h' ∧
      h'.val (h'.t b).data = (shb, vals) ∧ (h'.t b).base = none ∧ (h'.t b).const = (h.t b).const ∧
      h'.val (h'.t v).data = (dv.shape, dv.positions.map fun p => vals.getD p 0) ∧ (h'.t v).base = some b ∧
      (∀ b', b' < h.next → h'.buf b' = h.buf b') ∧
      (∀ t, t < h.next → t ≠ b → t ≠ v → (h'.t t).data = (h.t t).data ∧ (h'.t t).const = (h.t t).const) := by
  have hf : Fam h roots b v bufb shb := ⟨hbl, hvl, hne, hbase, hvb, hdata, hbufb, hro, hcb, hcv, hdead⟩
  have ho : ViewOp h v f shb vf fc dv := ⟨hcr, hfl, hkind, hfc, happ, hin⟩
  have hs := family_setup h roots b v bufb shb hf b true _ [] .base kind inputs hwf
  rw [show outWrite kind (inputs.map (operandVal h)) (Desc.contig 0 shb).shape (h.read ⟨bufb, Desc.contig 0 shb⟩) none
    = .ok vals by rw [← hdata]; exact hw] at hs
  obtain ⟨D, W, h5, r, hD, G, hs⟩ := hs
  obtain ⟨_, bc, _, br⟩ := family_base h D roots b v bufb shb hf hD
  have dN := hD.next
  obtain ⟨gid, gnext, gabove, gmut, _, _, gframe, _, gcopy⟩ := G
  rw [dN] at hs gabove gmut gframe gcopy
  obtain ⟨F, hF, fvd, fvb, fbd, fbc, fbb, fbufs, fF⟩ := family_final h D roots b v f bufb shb vf fc dv hf ho hD
    h5 r (by rw [gid]; omega) gframe (by rw [gmut]) (by rw [gmut])
  have hlen : (h.read (h.t b).data).length = size shb := by rw [read_length, hdata]; rfl
  -- the copy was overwritten as a whole
  have hcopy : F.buf (h.next + 2) = vals := by
    simp only [Heap.buf, fbufs]
    refine gcopy.trans ?_
    rw [br, scatter_whole _ _ _ hlen hvll]
  refine ⟨F, hs.trans hF, ?_, fbb, ?_, ?_, fvb, fF.buf, fun t ht h1 h2 => ?_⟩
  · simp only [Heap.val, fbd]
    rw [read_contig_whole F _ shb (by rw [hcopy, hvll]), hcopy]
    rfl
  · rw [fbc, gmut, bc]
  · simp only [Heap.val, fvd, Heap.read, hcopy]
  · have := fF.tens t ht (by simp [h1, h2])
    exact ⟨this.data, this.const⟩

/-- the premises of `inplace_on_base_seen_through_view` are satisfiable, and the conclusion is what the executable
model computes: `x *= 10` on `x = [3, 4, 5]` while `v = x[0:2]` is alive -/
example :
    (vHeap.t 0).base = none ∧ (vHeap.t 7).base = some 0 ∧ (vHeap.t 7).creator = some 6 ∧
    (vHeap.op 6).kind = .view (.getitem [.slice (some 0) (some 2) 1]) ∧
    (vHeap.t 0).data = ⟨5, Desc.contig 0 [3]⟩ ∧ vHeap.ro.contains 5 = false ∧
    (vHeap.t 0).vchildren.filter (liveSet vHeap [0, 7]).contains = [7] ∧
    (vHeap.t 7).vchildren.filter (liveSet vHeap [0, 7]).contains = [] ∧
    (ViewFn.getitem [.slice (some 0) (some 2) 1]).apply (Desc.contig 0 [3]) = .ok (⟨0, [2], [1]⟩, true) ∧
    (⟨0, [2], [1]⟩ : Desc).positions = [0, 1] ∧
    outWrite .mul ([Operand.t 0, Operand.lit ([], [10])].map (operandVal vHeap)) [3] (vHeap.read (vHeap.t 0).data) none
      = .ok [30, 40, 50] ∧
    (match inPlaceOp vHeap [0, 7] 0 .mul [.t 0, .lit ([], [10])] with
      | .ok h' => h'.val (h'.t 0).data == ([3], [30, 40, 50]) && h'.val (h'.t 7).data == ([2], [30, 40]) &&
          (h'.t 7).base == some 0 && (h'.t 0).base.isNone
      | .error _ => false) = true := by
  refine ⟨rfl, rfl, rfl, rfl, rfl, rfl, rfl, rfl, rfl, rfl, rfl, rfl⟩

/-- the premises of the two failure theorems are satisfiable, and their conclusions are what the executable model
computes: on `x = [3, 4, 5]` with the live view `v = x[0:2]`, the statements `v[...] = [1, 2, 3]` and `x[...] = [1, 2]`
are rejected (the values do not broadcast); afterwards both tensors hold their values, `v` is still the view of `x`
created by op 6, whose variable list is `[0]` again -/
example :
    outWrite (.setitem (.basic [.ellipsis])) ([Operand.t 7, Operand.lit ([3], [1, 2, 3])].map (operandVal vHeap)) [2]
      (vHeap.read ⟨5, ⟨0, [2], [1]⟩⟩) none = .error .valueError ∧
    outWrite (.setitem (.basic [.ellipsis])) ([Operand.t 0, Operand.lit ([2], [1, 2])].map (operandVal vHeap)) [3]
      (vHeap.read (vHeap.t 0).data) none = .error .valueError ∧
    (∀ f, ∀ u ∈ (vHeap.op f).vars, u ≠ vHeap.next ∧ u ≠ vHeap.next + 1) ∧
    (match inPlaceOp vHeap [0, 7] 7 (.setitem (.basic [.ellipsis])) [.t 7, .lit ([3], [1, 2, 3])] with
      | .error (e, hf) => e == .valueError && hf.val (hf.t 0).data == ([3], [3, 4, 5]) && hf.val (hf.t 7).data == ([2], [3, 4]) &&
          (hf.t 7).base == some 0 && (hf.t 7).creator == some 6 && (hf.op 6).vars == [0] && (hf.t 0).vchildren == [7]
      | .ok _ => false) = true ∧
    (match inPlaceOp vHeap [0, 7] 0 (.setitem (.basic [.ellipsis])) [.t 0, .lit ([2], [1, 2])] with
      | .error (e, hf) => e == .valueError && hf.val (hf.t 0).data == ([3], [3, 4, 5]) && hf.val (hf.t 7).data == ([2], [3, 4]) &&
          (hf.t 7).base == some 0 && (hf.t 7).creator == some 6 && (hf.op 6).vars == [0] && (hf.t 0).vchildren == [7]
      | .ok _ => false) = true := by
  refine ⟨rfl, rfl, ?_, rfl, rfl⟩
  intro f u hu
  rw [vars_of_ops_singleton (k := 6) rfl] at hu
  split at hu
  · obtain rfl : u = 0 := List.mem_singleton.mp hu
    exact ⟨by decide, by decide⟩
  · cases hu

end MG.C04V
