import MG.Core.Engine
/-!
Get/set laws for the association lists and heap accessors of the engine model.  Core Lean only.
-/
namespace MG.Eng

theorem lookup_insert_self {α} (k : Nat) (v : α) (l : List (Nat × α)) :
    lookup k (insert k v l) = some v := by
  induction l with
  | nil => simp [insert, lookup]
  | cons p l ih => unfold insert; split <;> simp [lookup, *]

theorem lookup_insert_ne {α} (k k' : Nat) (v : α) (l : List (Nat × α)) (hne : k' ≠ k) :
    lookup k' (insert k v l) = lookup k' l := by
  induction l with
  | nil => simp [insert, lookup, Ne.symm hne]
  | cons p l ih =>
    unfold insert
    split
    · subst k; simp [lookup, Ne.symm hne]
    · simp [lookup, ih]

@[simp] theorem t_setT_self (h : Heap) (i : Nat) (x : Tens) : (h.setT i x).t i = x := by
  simp [Heap.t, Heap.setT, lookup_insert_self]

theorem t_setT_ne (h : Heap) (i j : Nat) (x : Tens) (hne : j ≠ i) : (h.setT i x).t j = h.t j := by
  simp [Heap.t, Heap.setT, lookup_insert_ne _ _ _ _ hne]

@[simp] theorem t_modT_self (h : Heap) (i : Nat) (f : Tens → Tens) : (h.modT i f).t i = f (h.t i) := by
  simp [Heap.modT]

theorem t_modT_ne (h : Heap) (i j : Nat) (f : Tens → Tens) (hne : j ≠ i) : (h.modT i f).t j = h.t j := by
  simp [Heap.modT, t_setT_ne _ _ _ _ hne]

/-- a reflexive relation that holds between a record and its update holds between every record before and after -/
theorem t_modT_rel {R : Tens → Tens → Prop} (h : Heap) (i j : Nat) (f : Tens → Tens)
    (hr : R (h.t j) (h.t j)) (hf : R (h.t i) (f (h.t i))) : R (h.t j) ((h.modT i f).t j) := by
  by_cases e : j = i
  · subst e; rwa [t_modT_self]
  · rwa [t_modT_ne _ _ _ _ e]

theorem t_modT_field {β} (h : Heap) (i j : Nat) (f : Tens → Tens) (π : Tens → β)
    (hf : ∀ x, π (f x) = π x) : π ((h.modT i f).t j) = π (h.t j) :=
  t_modT_rel (R := fun x y => π y = π x) h i j f rfl (hf _)

@[simp] theorem bufs_setT (h : Heap) (i : Nat) (x : Tens) : (h.setT i x).bufs = h.bufs := rfl
@[simp] theorem bufs_modT (h : Heap) (i : Nat) (f : Tens → Tens) : (h.modT i f).bufs = h.bufs := rfl
@[simp] theorem ops_setT (h : Heap) (i : Nat) (x : Tens) : (h.setT i x).ops = h.ops := rfl
@[simp] theorem ops_modT (h : Heap) (i : Nat) (f : Tens → Tens) : (h.modT i f).ops = h.ops := rfl
@[simp] theorem next_setT (h : Heap) (i : Nat) (x : Tens) : (h.setT i x).next = h.next := rfl
@[simp] theorem next_modT (h : Heap) (i : Nat) (f : Tens → Tens) : (h.modT i f).next = h.next := rfl
@[simp] theorem op_setT (h : Heap) (i : Nat) (x : Tens) (f : Nat) : (h.setT i x).op f = h.op f := rfl
@[simp] theorem op_modT (h : Heap) (i : Nat) (g : Tens → Tens) (f : Nat) : (h.modT i g).op f = h.op f := rfl
@[simp] theorem bufs_fresh (h : Heap) : h.fresh.1.bufs = h.bufs := rfl
@[simp] theorem tens_fresh (h : Heap) : h.fresh.1.tens = h.tens := rfl
@[simp] theorem ops_fresh (h : Heap) : h.fresh.1.ops = h.ops := rfl
@[simp] theorem t_fresh (h : Heap) (i : Nat) : h.fresh.1.t i = h.t i := rfl
@[simp] theorem op_fresh (h : Heap) (f : Nat) : h.fresh.1.op f = h.op f := rfl
@[simp] theorem next_fresh (h : Heap) : h.fresh.1.next = h.next + 1 := rfl
@[simp] theorem fresh_snd (h : Heap) : h.fresh.2 = h.next := rfl

/-- folding field-preserving `modT`s preserves the field everywhere -/
theorem foldl_modT_field {β γ} (π : Tens → β) (xs : List γ) (idx : γ → Nat) (f : γ → Tens → Tens)
    (hf : ∀ c x, π (f c x) = π x) (h : Heap) (j : Nat) :
    π ((xs.foldl (fun h c => h.modT (idx c) (f c)) h).t j) = π (h.t j) := by
  induction xs generalizing h with
  | nil => rfl
  | cons c cs ih =>
    simp only [List.foldl_cons]
    rw [ih, t_modT_field _ _ _ _ π (hf c)]


theorem lookup_filter_ne {α} (l : List (Nat × α)) (m t : Nat) (ht : t ≠ m) :
    lookup t (l.filter fun p => p.1 ≠ m) = lookup t l := by
  induction l with
  | nil => rfl
  | cons q l ih =>
    obtain ⟨k, v⟩ := q
    rw [List.filter_cons]
    split
    · simp only [lookup, ih]
    · rename_i hk
      -- the entry dropped has key `m`
      have : k ≠ t := by simp at hk; omega
      rw [ih]; simp only [lookup, if_neg this]

/-- dropping the (dead) object `m` from the tensor table is invisible at every other id -/
theorem t_filter_ne (h : Heap) (m t : Nat) (ht : t ≠ m) :
    ({ h with tens := h.tens.filter fun p => p.1 ≠ m } : Heap).t t = h.t t := by
  simp only [Heap.t, lookup_filter_ne _ _ _ ht]

@[simp] theorem op_setOp_self (h : Heap) (f : Nat) (o : OpRec) : (h.setOp f o).op f = o := by
  simp [Heap.op, Heap.setOp, lookup_insert_self]

theorem op_setOp_ne (h : Heap) (f g : Nat) (o : OpRec) (hne : g ≠ f) : (h.setOp f o).op g = h.op g := by
  simp [Heap.op, Heap.setOp, lookup_insert_ne _ _ _ _ hne]

theorem buf_newArr (h : Heap) (v : Val) (b : Nat) :
    (h.newArr v).1.buf b = if b = h.next then v.2 else h.buf b := by
  simp only [Heap.newArr, Heap.buf, Heap.fresh]
  split
  · subst b; rw [lookup_insert_self]; rfl
  · rw [lookup_insert_ne _ _ _ _ ‹_›]

theorem newArr_frames (h : Heap) (v : Val) (b : Nat) (hb : b ≠ h.next) : (h.newArr v).1.buf b = h.buf b := by
  rw [buf_newArr, if_neg hb]

/-- in a heap with the one op record `(k, o)` no other op has variables -/
theorem vars_of_ops_singleton {h : Heap} {k : Nat} {o : OpRec} (e : h.ops = [(k, o)]) (f : Nat) :
    (h.op f).vars = if f = k then o.vars else [] := by
  simp only [Heap.op, e, lookup]
  by_cases hf : f = k
  · rw [if_pos hf.symm, if_pos hf]; rfl
  · rw [if_neg (Ne.symm hf), if_neg hf]; rfl

theorem mem_inp {h : Heap} {t v : Nat} :
    v ∈ h.inp t ↔ (h.t t).const = false ∧ ∃ f, (h.t t).creator = some f ∧ v ∈ (h.op f).vars := by
  simp only [Heap.inp]
  cases (h.t t).const <;> cases (h.t t).creator <;> simp

theorem insert_insert {α} (k : Nat) (a b : α) (l : List (Nat × α)) :
    insert k b (insert k a l) = insert k b l := by
  induction l with
  | nil => simp [insert]
  | cons p l ih =>
    by_cases hk : p.1 = k
    · simp [insert, hk]
    · simp [insert, hk, ih]

theorem setT_setT (h : Heap) (i : Nat) (a b : Tens) : (h.setT i b).setT i a = h.setT i a := by
  simp [Heap.setT, insert_insert]

theorem modT_modT (h : Heap) (i : Nat) (f g : Tens → Tens) : (h.modT i f).modT i g = h.modT i (g ∘ f) := by
  simp only [Heap.modT, t_setT_self]
  simp only [Heap.setT, insert_insert, Function.comp]

end MG.Eng
