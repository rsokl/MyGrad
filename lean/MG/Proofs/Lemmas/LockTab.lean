import MG.Core.Lock
/-! Lemmas for C08 about the association-list tables, the multiset of holds `cntH`, and the accessors of
the heap of `MG/Core/Lock.lean`. -/
namespace MG.Lock

variable {α : Type}

@[simp] theorem lookup_nil (k : Nat) : lookup k ([] : Tab α) = none := rfl

theorem lookup_erase (k k' : Nat) (m : Tab α) :
    lookup k' (erase k m) = if k' = k then none else lookup k' m := by
  induction m with
  | nil => simp [erase, lookup]
  | cons p m ih =>
    obtain ⟨q, v⟩ := p
    by_cases h : q = k
    · subst h
      simp only [erase, ↓reduceIte, ih, lookup]
      by_cases h2 : k' = q
      · simp [h2]
      · have : ¬ q = k' := fun e => h2 e.symm
        simp [h2, this]
    · simp only [erase, h, ↓reduceIte, lookup, ih]
      by_cases h2 : q = k'
      · subst h2
        simp [h]
      · simp [h2]

theorem lookup_insert (k k' : Nat) (v : α) (m : Tab α) :
    lookup k' (insert k v m) = if k' = k then some v else lookup k' m := by
  unfold insert
  simp only [lookup, lookup_erase]
  by_cases h : k = k'
  · subst h; simp
  · have : ¬ k' = k := fun e => h e.symm
    simp [h, this]

theorem cget_erase (k k' : Nat) (m : Tab Nat) :
    cget (erase k m) k' = if k' = k then 0 else cget m k' := by
  unfold cget
  rw [lookup_erase]
  split <;> simp

theorem cget_insert (k k' v : Nat) (m : Tab Nat) :
    cget (insert k v m) k' = if k' = k then v else cget m k' := by
  unfold cget
  rw [lookup_insert]
  split <;> simp

theorem wget_erase (k k' : Nat) (m : Tab (List Nat)) :
    wget (erase k m) k' = if k' = k then [] else wget m k' := by
  unfold wget
  rw [lookup_erase]
  split <;> simp

theorem wget_insert (k k' : Nat) (v : List Nat) (m : Tab (List Nat)) :
    wget (insert k v m) k' = if k' = k then v else wget m k' := by
  unfold wget
  rw [lookup_insert]
  split <;> simp

@[simp] theorem wget_nil (k : Nat) : wget [] k = [] := rfl

theorem mem_wget_wadd (k v k' v' : Nat) (m : Tab (List Nat)) :
    v' ∈ wget (wadd k v m) k' ↔ (v' ∈ wget m k' ∨ (k' = k ∧ v' = v)) := by
  unfold wadd
  by_cases hk : k' = k
  · subst hk
    split
    · next hc =>
      rw [wget_insert, if_pos rfl]
      exact ⟨Or.inl, fun h => h.elim id fun h => h.2 ▸ List.contains_iff_mem.mp hc⟩
    · rw [wget_insert, if_pos rfl, List.mem_append, List.mem_singleton, eq_self, true_and]
  · split <;> rw [wget_insert, if_neg hk] <;> exact ⟨Or.inl, fun h => h.resolve_right fun h => hk h.1⟩

theorem mem_wget_wremove (k v k' v' : Nat) (m : Tab (List Nat)) :
    v' ∈ wget (wremove k v m) k' ↔ (v' ∈ wget m k' ∧ ¬ (k' = k ∧ v' = v)) := by
  rw [wremove, wget_insert]
  split
  · next hk => subst hk; simp [List.mem_filter]
  · next hk => exact ⟨fun h => ⟨h, fun h' => hk h'.1⟩, And.left⟩

theorem lookup_of_isEmpty {m : Tab α} : m.isEmpty = true → ∀ k, lookup k m = none := by
  intro h k
  cases m with
  | nil => rfl
  | cons p m => simp at h

theorem cntH_append (hs : List (List Nat)) (h : List Nat) (o : Nat) :
    cntH (hs ++ [h]) o = cntH hs o + h.count o := by
  induction hs with
  | nil => simp [cntH]
  | cons x xs ih => simp only [List.cons_append, cntH, ih]; omega

theorem cntH_eraseIdx (hs : List (List Nat)) (k : Nat) (h : List Nat) (o : Nat)
    (hk : hs[k]? = some h) :
    cntH hs o = cntH (hs.eraseIdx k) o + h.count o := by
  induction hs generalizing k with
  | nil => simp at hk
  | cons x xs ih =>
    cases k with
    | zero =>
      simp only [List.getElem?_cons_zero, Option.some.injEq] at hk
      subst hk
      simp only [List.eraseIdx_cons_zero, cntH]
      omega
    | succ k =>
      simp only [List.getElem?_cons_succ] at hk
      simp only [List.eraseIdx_cons_succ, cntH]
      have := ih k hk
      omega

/-- extending the refs of a hold: the hold is taken out and put back longer -/
theorem cntH_set (hs : List (List Nat)) (k : Nat) (h extra : List Nat) (o : Nat)
    (hk : hs[k]? = some h) :
    cntH (hs.set k (h ++ extra)) o = cntH hs o + extra.count o := by
  have hk' : (hs.set k (h ++ extra))[k]? = some (h ++ extra) :=
    List.getElem?_set_self (List.getElem?_eq_some_iff.mp hk).1
  rw [cntH_eraseIdx _ k _ o hk', List.eraseIdx_set_eq, cntH_eraseIdx hs k h o hk, List.count_append]
  omega

theorem mem_wget_exists {m : Tab (List Nat)} {k v : Nat} (h : v ∈ wget m k) : ∃ p ∈ m, v ∈ p.2 := by
  induction m with
  | nil => simp at h
  | cons p m ih =>
    obtain ⟨q, l⟩ := p
    unfold wget at h
    simp only [lookup] at h
    by_cases hq : q = k
    · simp only [hq, ↓reduceIte, Option.getD_some] at h
      exact ⟨(q, l), List.mem_cons_self .., h⟩
    · simp only [hq, ↓reduceIte] at h
      obtain ⟨p, hp, hv⟩ := ih h
      exact ⟨p, List.mem_cons_of_mem _ hp, hv⟩

theorem cntH_pos_iff {hs : List (List Nat)} {o : Nat} : 0 < cntH hs o ↔ ∃ l ∈ hs, o ∈ l := by
  induction hs with
  | nil => simp [cntH]
  | cons x xs ih => rw [cntH, Nat.add_pos_iff_pos_or_pos, List.count_pos_iff, ih]; simp

theorem cntH_pos_mem {hs : List (List Nat)} {o : Nat} (h : 0 < cntH hs o) : ∃ l ∈ hs, o ∈ l :=
  cntH_pos_iff.mp h

theorem count_cons_eq (o x : Nat) (os : List Nat) :
    (o :: os).count x = os.count x + if x = o then 1 else 0 := by
  simp only [List.count_cons, beq_iff_eq, @eq_comm _ x o]

def origOf (s : State) (o : Nat) : Bool :=
  match s.arrs[o]? with
  | some a => a.orig
  | none => false

def baseOf (s : State) (o : Nat) : Option Nat :=
  match s.arrs[o]? with
  | some a => a.base
  | none => none

def enteredOf (s : State) (o : Nat) : Bool :=
  match s.arrs[o]? with
  | some a => a.entered
  | none => false

theorem acc_get {s : State} {o : Nat} {a : Arr} (hs : s.arrs[o]? = some a) :
    isAlive s o = a.alive ∧ aidOf s o = a.aid ∧ baseOf s o = a.base ∧ origOf s o = a.orig ∧
    wOf s o = a.writeable ∧ enteredOf s o = a.entered := by
  simp [isAlive, aidOf, baseOf, origOf, wOf, enteredOf, hs]

/-- the six accessors agree at `x` -/
structure SameAt (s s' : State) (x : Nat) : Prop where
  alive : isAlive s' x = isAlive s x
  aid : aidOf s' x = aidOf s x
  base : baseOf s' x = baseOf s x
  orig : origOf s' x = origOf s x
  w : wOf s' x = wOf s x
  entered : enteredOf s' x = enteredOf s x

theorem acc_of_get {s s' : State} {x : Nat} (h : s'.arrs[x]? = s.arrs[x]?) : SameAt s s' x := by
  constructor <;> simp only [isAlive, aidOf, baseOf, origOf, wOf, enteredOf, h]

theorem arr_of_alive {s : State} {o : Nat} (h : isAlive s o = true) :
    ∃ a, s.arrs[o]? = some a ∧ a.alive = true := by
  unfold isAlive at h
  cases hs : s.arrs[o]? with
  | none => simp [hs] at h
  | some a => exact ⟨a, rfl, by simpa [hs] using h⟩

theorem isAlive_lt {s : State} {o : Nat} (h : isAlive s o = true) : o < s.arrs.length := by
  obtain ⟨a, hs, _⟩ := arr_of_alive h
  exact (List.getElem?_eq_some_iff.mp hs).1

theorem get_modArr (s : State) (o x : Nat) (f : Arr → Arr) :
    (modArr s o f).arrs[x]? = if x = o then (s.arrs[x]?).map f else s.arrs[x]? := by
  simp only [modArr, List.getElem?_modify, @eq_comm _ o x]
  split
  · rfl
  · exact id_map _

theorem get_modArr_ne (s : State) {o x : Nat} (f : Arr → Arr) (h : x ≠ o) :
    (modArr s o f).arrs[x]? = s.arrs[x]? := by
  rw [get_modArr, if_neg h]

theorem wOf_modArr_ne (s : State) (o : Nat) (f : Arr → Arr) (x : Nat) (h : x ≠ o) :
    wOf (modArr s o f) x = wOf s x :=
  (acc_of_get (get_modArr_ne s f h)).w

theorem wOf_modArr_self (s : State) {o : Nat} {f : Arr → Arr} {v : Bool} (hf : ∀ a, (f a).writeable = v)
    (h : isAlive s o = true) : wOf (modArr s o f) o = v := by
  obtain ⟨a, hs, _⟩ := arr_of_alive h
  simp [wOf, get_modArr, hs, hf]

/-- an update of one array that keeps everything but the flag and the ghost `entered` -/
def FlagOnly (f : Arr → Arr) : Prop :=
  ∀ a, (f a).aid = a.aid ∧ (f a).base = a.base ∧ (f a).alive = a.alive ∧ (f a).orig = a.orig

/-- `lock_arr_writeability` on the array itself -/
def lockf : Arr → Arr := fun a => { a with writeable := false, entered := true }
/-- `arr.flags.writeable = True`, accepted -/
def setWt : Arr → Arr := fun a => { a with writeable := true }

theorem flagOnly_lockf : FlagOnly lockf := fun _ => ⟨rfl, rfl, rfl, rfl⟩
theorem flagOnly_setWt : FlagOnly setWt := fun _ => ⟨rfl, rfl, rfl, rfl⟩

section modArr
variable (s : State) (o : Nat) (f : Arr → Arr)

@[simp] theorem counter_modArr : (modArr s o f).counter = s.counter := rfl
@[simp] theorem tracker_modArr : (modArr s o f).tracker = s.tracker := rfl
@[simp] theorem waiting_modArr : (modArr s o f).waiting = s.waiting := rfl
@[simp] theorem holds_modArr : (modArr s o f).holds = s.holds := rfl
@[simp] theorem length_modArr : (modArr s o f).arrs.length = s.arrs.length := by simp [modArr]

theorem static_modArr (hf : FlagOnly f) (x : Nat) :
    isAlive (modArr s o f) x = isAlive s x ∧ aidOf (modArr s o f) x = aidOf s x ∧
    baseOf (modArr s o f) x = baseOf s x ∧ origOf (modArr s o f) x = origOf s x := by
  by_cases h : x = o
  · subst h
    simp only [isAlive, aidOf, baseOf, origOf, get_modArr, if_pos]
    cases s.arrs[x]? with
    | none => exact ⟨rfl, rfl, rfl, rfl⟩
    | some a => exact ⟨(hf a).2.2.1, (hf a).1, (hf a).2.1, (hf a).2.2.2⟩
  · obtain ⟨e1, e2, e3, e4, -⟩ := acc_of_get (get_modArr_ne s f h)
    exact ⟨e1, e2, e3, e4⟩

end modArr

end MG.Lock
