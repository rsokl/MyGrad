import MG.Proofs.Lemmas.LockInv
/-! `lock_arr_writeability`, `_release_lock_on_arr_writeability` and the loops over them
(`release_writeability_lock_on_op`, "lock every input", `unique_arrs_and_bases`) preserve the invariant. -/
namespace MG.Lock

/-- does `lock_arr_writeability` take its early return? -/
def skips (s : State) (o : Nat) (force : Bool) : Bool :=
  !isTracked s o && !force && !wOf s o &&
    (match baseOf s o with
     | none => true
     | some b => !isTracked s b)

theorem lock_eq (s : State) (o : Nat) (force : Bool) {a : Arr} (hs : s.arrs[o]? = some a) :
    lock s o force =
      if skips s o force then s
      else modArr { s with
        counter := insert (aidOf s o) (if isTracked s o then cget s.counter (aidOf s o) + 1 else 1) s.counter,
        tracker := if isTracked s o then s.tracker else insert (aidOf s o) o s.tracker } o lockf := by
  obtain ⟨-, haid, hb, -, hw, -⟩ := acc_get hs
  rw [lock, skips, haid, hb, hw]
  simp only [hs]
  cases isTracked s o <;> rfl

/-- what no lock or release function touches: the static heap and the registered holds -/
def Frame (s s' : State) : Prop := SameStatic s s' ∧ s'.holds = s.holds

theorem Frame.refl (s : State) : Frame s s := ⟨.refl s, rfl⟩

theorem Frame.trans {s1 s2 s3 : State} (h12 : Frame s1 s2) (h23 : Frame s2 s3) : Frame s1 s3 :=
  ⟨h12.1.trans h23.1, h23.2.trans h12.2⟩

theorem Frame.of_arrs {s s' : State} (ha : s'.arrs = s.arrs := by rfl) (hh : s'.holds = s.holds := by rfl) :
    Frame s s' := ⟨sameStatic_of_arrs ha, hh⟩

theorem Frame.modArr (s : State) (o : Nat) {f : Arr → Arr} (hf : FlagOnly f) : Frame s (modArr s o f) :=
  ⟨sameStatic_modArr s o f hf, rfl⟩

theorem lock_frame (s : State) (o : Nat) (force : Bool) : Frame s (lock s o force) := by
  cases hs : s.arrs[o]? with
  | none => simp only [lock, hs]; exact .refl s
  | some a =>
    rw [lock_eq s o force hs]
    by_cases h : skips s o force = true
    · rw [if_pos h]; exact .refl s
    · rw [if_neg h]; exact .trans .of_arrs (.modArr _ o flagOnly_lockf)

theorem lock_static (s : State) (o : Nat) (force : Bool) : SameStatic s (lock s o force) :=
  (lock_frame s o force).1

theorem wOf_lock_ne (s : State) {o : Nat} (force : Bool) {y : Nat} (h : y ≠ o) :
    wOf (lock s o force) y = wOf s y := by
  cases hs : s.arrs[o]? with
  | none => simp only [lock, hs]
  | some a =>
    rw [lock_eq s o force hs]
    by_cases hsk : skips s o force = true
    · rw [if_pos hsk]
    · rw [if_neg hsk]; exact wOf_modArr_ne _ _ _ _ h

/-- `lock_arr_writeability` preserves the invariant; the expected hold count of `o` goes up by one.
`hside`: an array whose original flag is writeable is not skipped (it is writeable, tracked, force-locked,
or its base is tracked); `hforce`: natively read-only arrays are never force-locked. -/
theorem lock_inv {s : State} {m : Nat → Nat} {P : Nat → Nat → Prop} (hI : Inv s m P) {o : Nat} (force : Bool)
    (ho : isAlive s o = true)
    (hside : origOf s o = true → wOf s o = true ∨ isTracked s o = true ∨ force = true ∨
      ∃ b, baseOf s o = some b ∧ isTracked s b = true)
    (hforce : origOf s o = false → force = false) :
    Inv (lock s o force) (fun x => if x = o then m x + 1 else m x) P ∧
      (origOf s o = true → lookup (aidOf s o) (lock s o force).tracker = some o) ∧
      (∀ i t, lookup i s.tracker = some t → lookup i (lock s o force).tracker = some t) := by
  have hT := hI.toTabOK
  obtain ⟨a, hs, -⟩ := arr_of_alive ho
  cases horig : origOf s o with
  | false =>
    -- natively read-only: neither the array nor its base is tracked, and the early return is taken
    have hnt : ∀ y, isAlive s y = true → origOf s y = false → isTracked s y = false := fun y hy hyo => by
      cases h : isTracked s y with
      | false => rfl
      | true => exact nomatch ((isTracked_iff hT hy).mp h).symm.trans ((hI.obj hy).ro hyo).2.2
    have hsk : skips s o force = true := by
      unfold skips
      rw [hnt o ho horig, hforce horig, ((hI.obj ho).ro horig).1]
      cases hb : baseOf s o with
      | none => rfl
      | some b =>
        obtain ⟨hba, _, hbo⟩ := hI.baseOk o b ho hb
        simp [hnt b hba (hbo.trans horig)]
    rw [lock_eq s o force hs, hsk, if_pos rfl]
    exact ⟨hI.congr_m fun x _ hxo => if_neg fun e => (by rw [e, horig] at hxo; cases hxo), nofun, fun _ _ h => h⟩
  | true =>
    have hnsk : skips s o force = false := by
      unfold skips
      rcases hside horig with h | h | h | ⟨b, hb, h⟩
      · simp [h]
      · simp [h]
      · simp [h]
      · simp [hb, h]
    -- tracked before or not, the counter at `id(arr)` goes up by one and the tracker entry there is `arr`
    have obs : SameStatic s (lock s o force) ∧ (∀ x, x ≠ o → (lock s o force).arrs[x]? = s.arrs[x]?) ∧
        wOf (lock s o force) o = false ∧ (lock s o force).waiting = s.waiting ∧
        (∀ i, cget (lock s o force).counter i =
          if i = aidOf s o then cget s.counter (aidOf s o) + 1 else cget s.counter i) ∧
        (∀ i, lookup i (lock s o force).tracker = if i = aidOf s o then some o else lookup i s.tracker) := by
      rw [lock_eq s o force hs, hnsk, if_neg Bool.false_ne_true]
      refine ⟨sameStatic_of_modify flagOnly_lockf rfl, fun x hx => get_modArr_ne _ _ hx,
        wOf_modArr_self _ (fun _ => rfl) ho, rfl, ?_⟩
      simp only [counter_modArr, tracker_modArr, cget_insert]
      cases hTr : isTracked s o with
      | true =>
        refine ⟨fun i => rfl, fun i => ?_⟩
        rw [if_pos rfl]
        split
        · subst_vars; exact (isTracked_iff hT ho).mp hTr
        · rfl
      | false =>
        have hl : lookup (aidOf s o) s.tracker = none :=
          (tracker_cases hT ho).resolve_right fun h => by rw [(isTracked_iff hT ho).mpr h] at hTr; cases hTr
        have hc0 : cget s.counter (aidOf s o) = 0 := by
          cases hc : cget s.counter (aidOf s o) with
          | zero => rfl
          | succ n => rw [((hI.obj ho).rwLocked horig (by omega)).1] at hl; cases hl
        exact ⟨fun i => by rw [hc0]; rfl, fun i => lookup_insert ..⟩
    generalize lock s o force = s' at obs ⊢
    obtain ⟨hS, ha, hwo, hwait, hc, ht⟩ := obs
    refine ⟨hI.transfer hS ?_ (fun k v hv => Or.inl (hwait ▸ hv)) fun x hx => ?_, fun _ => by rw [ht, if_pos rfl], ?_⟩
    · intro i t hl
      rw [ht] at hl
      split at hl
      · cases hl; exact Or.inr ⟨ho, ‹i = _›.symm⟩
      · exact Or.inl hl
    · by_cases hxo : x = o
      · subst hxo
        exact .locked (by rw [hS.orig]; exact horig)
          (by rw [hS.aid, hc, if_pos rfl, (hI.obj hx).rwCnt horig, if_pos rfl]) (by rw [if_pos rfl]; omega)
          (by rw [hS.aid, ht, if_pos rfl]) hwo
      · have hne := hT.aid_ne hx ho hxo
        refine (hI.obj hx).congr (ha x hxo) (by rw [hc, if_neg hne]) (by rw [ht, if_neg hne])
          (fun _ => if_neg hxo) ?_
        intro _ _ b ⟨hb, hmem, hp⟩
        simp only [WaitsFor, hS.aid, hS.base, hwait, hc]
        refine ⟨hb, hmem, hp.imp_left fun h => ?_⟩
        split <;> omega
    · intro i t hl
      rw [ht]
      split
      · rw [hT.trkUniq i t o hl ho ‹i = _›.symm]
      · exact hl

theorem trySet_eq (s : State) (o : Nat) (ho : isAlive s o = true) :
    trySetWriteable s o =
      if (match baseOf s o with
          | none => true
          | some b => wOf s b) = true
      then modArr s o setWt else s := by
  obtain ⟨a, hs, _⟩ := arr_of_alive ho
  have hb := (acc_get hs).2.2.1
  unfold trySetWriteable
  simp only [hs, hb]
  cases hB : a.base with
  | none => simp; rfl
  | some b => rfl

theorem trySet_frame (s : State) (o : Nat) : Frame s (trySetWriteable s o) := by
  unfold trySetWriteable
  split
  · exact .refl s
  · split
    · exact .modArr s o flagOnly_setWt
    · split
      · exact .modArr s o flagOnly_setWt
      · exact .refl s

theorem trySet_static (s : State) (o : Nat) (ho : isAlive s o = true) : SameStatic s (trySetWriteable s o) :=
  (trySet_frame s o).1

/-- NumPy accepts `arr.flags.writeable = True` on an owner and on a view of a writeable base -/
theorem trySet_pos {s : State} {o : Nat} (ho : isAlive s o = true) (h : ∀ b, baseOf s o = some b → wOf s b = true) :
    trySetWriteable s o = modArr s o setWt := by
  rw [trySet_eq s o ho]
  cases hb : baseOf s o with
  | none => rfl
  | some b => exact if_pos (h b hb)

/-- other ops still hold the array: the counter goes down -/
theorem inv_decr {s : State} {m P} (hI : Inv s m P) {o : Nat} (ho : isAlive s o = true)
    (horig : origOf s o = true) (h2 : 2 ≤ cget s.counter (aidOf s o)) :
    Inv { s with counter := insert (aidOf s o) (cget s.counter (aidOf s o) - 1) s.counter }
      (fun x => if x = o then m x - 1 else m x) P := by
  have hc := fun i => cget_insert (aidOf s o) i (cget s.counter (aidOf s o) - 1) s.counter
  refine hI.transfer_tables rfl rfl (fun _ _ h => h) fun x hx => ?_
  by_cases hxo : x = o
  · subst hxo
    obtain ⟨hl, hw0⟩ := (hI.obj hx).rwLocked horig (by omega)
    have hcm := (hI.obj hx).rwCnt horig
    exact .locked horig ((hc (aidOf s x)).trans (by simp only [↓reduceIte]; omega))
      (by simp only [↓reduceIte]; omega) hl hw0
  · have hne := hI.toTabOK.aid_ne hx ho hxo
    refine (hI.obj hx).congr rfl ((hc (aidOf s x)).trans (if_neg hne)) rfl (fun _ => if_neg hxo) ?_
    intro _ _ b ⟨hb, hmem, hp⟩
    refine ⟨hb, hmem, hp.imp_left fun h => Nat.lt_of_lt_of_eq ?_ (hc (aidOf s b)).symm⟩
    split <;> omega

/-- last release of a view whose base is still locked: the view starts waiting -/
theorem inv_wait {s : State} {m} (hI : Inv s m F) {o b : Nat} (ho : isAlive s o = true)
    (horig : origOf s o = true) (hb : baseOf s o = some b) (hwb : wOf s b = false)
    (hc1 : cget s.counter (aidOf s o) = 1) :
    Inv { s with counter := erase (aidOf s o) s.counter, waiting := wadd (aidOf s b) (aidOf s o) s.waiting }
      (fun x => if x = o then m x - 1 else m x) F := by
  have hc := fun i => cget_erase (aidOf s o) i s.counter
  have hwm := fun k v => mem_wget_wadd (aidOf s b) (aidOf s o) k v s.waiting
  -- no owner is `o`, which has a base; so the counter of every base is left alone
  have hown : ∀ y, isAlive s y = true → baseOf s y = none →
      cget (erase (aidOf s o) s.counter) (aidOf s y) = cget s.counter (aidOf s y) := fun y hy hyb =>
    (hc (aidOf s y)).trans (if_neg (hI.toTabOK.aid_ne hy ho fun e => by rw [e, hb] at hyb; cases hyb))
  refine hI.transfer (sameStatic_of_arrs rfl) (fun _ _ h => Or.inl h) ?_ fun x hx => ?_
  · intro k v hv
    rcases (hwm k v).mp hv with h | ⟨hk, hv⟩
    · exact Or.inl h
    · exact Or.inr ⟨o, b, ho, hv.symm, hb, hk.symm⟩
  by_cases hxo : x = o
  · subst hxo
    obtain ⟨hl, hw0⟩ := (hI.obj hx).rwLocked horig (by omega)
    have hcm := (hI.obj hx).rwCnt horig
    obtain ⟨hba, hbb, hbo⟩ := hI.baseOk x b hx hb
    exact .waiting (b := b) horig ((hc (aidOf s x)).trans (if_pos rfl)) (by simp only [↓reduceIte]; omega) hl hw0
      ⟨hb, (hwm _ _).mpr (Or.inr ⟨rfl, rfl⟩), Or.inl (Nat.lt_of_lt_of_eq
        (owner_locked_of_ro hI hba (hbo.trans horig) hbb hwb) (hown b hba hbb).symm)⟩
  · have hne := hI.toTabOK.aid_ne hx ho hxo
    refine (hI.obj hx).congr rfl ((hc (aidOf s x)).trans (if_neg hne)) rfl (fun _ => if_neg hxo) ?_
    intro _ _ b' ⟨hb', hmem, hp⟩
    obtain ⟨hb'a, hb'b, -⟩ := hI.baseOk x b' hx hb'
    exact ⟨hb', (hwm _ _).mpr (Or.inl hmem), hp.imp_left fun h => Nat.lt_of_lt_of_eq h (hown b' hb'a hb'b).symm⟩

/-- what may still be pending after the first half of the release function: the views filed under `o`,
if `o` is an owner that is writeable again -/
def pendSelf (s : State) (o : Nat) : Nat → Nat → Prop :=
  fun b i => b = o ∧ wOf s o = true ∧ baseOf s o = none ∧ i ∈ wget s.waiting (aidOf s o)

/-- last release of an array that can be made writeable at once (owner, or view of a writeable base):
the views filed under it are left pending -/
theorem inv_unlockSelf {s s' : State} {m} (hI : Inv s m F) {o : Nat} (ho : isAlive s o = true)
    (horig : origOf s o = true) (hc1 : cget s.counter (aidOf s o) = 1)
    (hS : SameStatic s s') (ha : ∀ x, x ≠ o → s'.arrs[x]? = s.arrs[x]?) (hwo : wOf s' o = true)
    (hc : ∀ i, cget s'.counter i = if i = aidOf s o then 0 else cget s.counter i)
    (ht : ∀ i, lookup i s'.tracker = if i = aidOf s o then none else lookup i s.tracker)
    (hw : s'.waiting = s.waiting) :
    Inv s' (fun x => if x = o then m x - 1 else m x) (pendSelf s' o) := by
  refine hI.transfer hS ?_ (fun k v h => Or.inl (hw ▸ h)) fun x hx => ?_
  · intro i t hl
    rw [ht] at hl
    split at hl
    · cases hl
    · exact Or.inl hl
  by_cases hxo : x = o
  · subst hxo
    have hcm := (hI.obj hx).rwCnt horig
    exact .free (by rw [hS.orig]; exact horig) (by rw [hS.aid, hc, if_pos rfl])
      (by simp only [↓reduceIte]; omega) (by rw [hS.aid, ht, if_pos rfl]) (fun _ => hwo)
  · have hne := hI.toTabOK.aid_ne hx ho hxo
    refine (hI.obj hx).congr (ha x hxo) (by rw [hc, if_neg hne]) (by rw [ht, if_neg hne])
      (fun _ => if_neg hxo) ?_
    intro _ _ b ⟨hb, hmem, hp⟩
    obtain ⟨hba, hbb, -⟩ := hI.baseOk x b hx hb
    simp only [WaitsFor, hS.aid, hS.base, hw, hc]
    refine ⟨hb, hmem, ?_⟩
    by_cases hbo : b = o
    · subst hbo; exact Or.inr ⟨rfl, hwo, (hS.base b).trans hbb, by rw [hw, hS.aid]; exact hmem⟩
    · rw [if_neg (hI.toTabOK.aid_ne hba ho hbo)]; exact hp.imp_right False.elim

/-- `_views_waiting_for_unlock.clear()` when nothing is tracked -/
theorem inv_clear_waiting {s : State} {m P} (Q : Nat → Nat → Prop) (hI : Inv s m P)
    (hemp : ∀ i, lookup i s.tracker = none) : Inv { s with waiting := [] } m Q :=
  hI.transfer_tables rfl rfl (fun k v h => by simp at h)
    fun x hx => (hI.obj hx).congr rfl rfl rfl (fun _ => rfl) (fun h => by rw [hemp] at h; cases h)

/-- changes of `waiting` that keep every `wget` (dropping a key whose set is empty) -/
theorem Inv.congr_waiting {s : State} {m P} (hI : Inv s m P) (w : Tab (List Nat))
    (hw : ∀ k, wget w k = wget s.waiting k) : Inv { s with waiting := w } m P :=
  hI.transfer_tables rfl rfl (fun k _ h => hw k ▸ h)
    fun _ hx => (hI.obj hx).congr rfl rfl rfl (fun _ => rfl)
      fun _ _ _ hb => ⟨hb.1, (hw _).symm ▸ hb.2.1, hb.2.2⟩

/-- dropping a tracker entry whose weak reference is dead -/
theorem inv_tracker_erase_dead {s : State} {m P} (hI : Inv s m P) (v t : Nat)
    (hl : lookup v s.tracker = some t) (hd : isAlive s t = false) :
    Inv { s with tracker := erase v s.tracker } m P := by
  refine hI.transfer (sameStatic_of_arrs rfl) ?_ (fun _ _ h => Or.inl h) fun x hx => ?_
  · intro i t' hl'
    have hl'' : lookup i (erase v s.tracker) = some t' := hl'
    rw [lookup_erase] at hl''
    split at hl''
    · cases hl''
    · exact Or.inl hl''
  · have hne : aidOf s x ≠ v := fun e => by
      rw [hI.trkUniq v t x hl hx e, hx] at hd; cases hd
    exact (hI.obj hx).congr rfl rfl ((lookup_erase ..).trans (if_neg hne)) (fun _ => rfl) (fun _ _ _ h => h)

/-- a waiting view is made writeable and leaves the tracker -/
theorem inv_unlock_view {s s' : State} {m P} (hI : Inv s m P) {t : Nat} (hta : isAlive s t = true)
    (hl : lookup (aidOf s t) s.tracker = some t) (hc0 : cget s.counter (aidOf s t) = 0)
    (hS : SameStatic s s') (ha : ∀ x, x ≠ t → s'.arrs[x]? = s.arrs[x]?) (hwo : wOf s' t = true)
    (hc : s'.counter = s.counter)
    (ht : ∀ i, lookup i s'.tracker = if i = aidOf s t then none else lookup i s.tracker)
    (hw : s'.waiting = s.waiting) : Inv s' m P := by
  have horig : origOf s t = true := by
    cases h : origOf s t with
    | true => rfl
    | false => have := ((hI.obj hta).ro h).2.2; rw [hl] at this; cases this
  refine hI.transfer hS ?_ (fun k v h => Or.inl (hw ▸ h)) fun x hx => ?_
  · intro i t' hl'
    rw [ht] at hl'
    split at hl'
    · cases hl'
    · exact Or.inl hl'
  by_cases hxt : x = t
  · subst hxt
    exact .free (by rw [hS.orig]; exact horig) (by rw [hS.aid, hc]; exact hc0)
      (((hI.obj hx).rwCnt horig).symm.trans hc0) (by rw [hS.aid, ht, if_pos rfl]) (fun _ => hwo)
  · have hne := hI.toTabOK.aid_ne hx hta hxt
    refine (hI.obj hx).congr (ha x hxt) (by rw [hc]) (by rw [ht, if_neg hne]) (fun _ => rfl) ?_
    intro _ _ b hb
    simpa only [WaitsFor, hS.aid, hS.base, hw, hc] using hb

/-- views of `o` that the loop of the release function has yet to visit -/
abbrev pendOn (o : Nat) (L : List Nat) : Nat → Nat → Prop := fun b i => b = o ∧ i ∈ L

/-- one round of `unlockViews` -/
def unlockView (bid v : Nat) (s : State) : State :=
  if 0 < cget s.counter v then s
  else match lookup v s.tracker with
    | none => { s with waiting := wremove bid v s.waiting }
    | some t =>
      if isAlive s t then
        trySetWriteable { s with waiting := wremove bid v s.waiting, tracker := erase v s.tracker } t
      else { s with waiting := wremove bid v s.waiting, tracker := erase v s.tracker }

theorem unlockViews_cons (bid v : Nat) (vs : List Nat) (s : State) :
    unlockViews bid (v :: vs) s = unlockViews bid vs (unlockView bid v s) := by
  unfold unlockView
  rw [unlockViews]
  split
  · rfl
  · show (match lookup v s.tracker with | none => _ | some t => _) = _
    split
    · rfl
    · show (if isAlive s _ = true then _ else _) = _
      split <;> rfl

theorem unlockView_frame (bid v : Nat) (s : State) : Frame s (unlockView bid v s) := by
  unfold unlockView
  split
  · exact .refl s
  · split
    · exact .of_arrs
    · split
      · exact .trans .of_arrs (trySet_frame _ _)
      · exact .of_arrs

theorem unlockViews_frame (bid : Nat) : ∀ (L : List Nat) (s : State), Frame s (unlockViews bid L s)
  | [], s => .refl s
  | v :: vs, s => by
    rw [unlockViews_cons]
    exact (unlockView_frame bid v s).trans (unlockViews_frame bid vs _)

/-- `v` is struck off `waiting[bid]` once nothing is tracked at address `v`: no live array is a
waiting view with that address, so `v` is also struck off the views left pending -/
theorem inv_wremove_pend {s : State} {m} {o bid v : Nat} {vs : List Nat} (hI : Inv s m (pendOn o (v :: vs)))
    (hl : lookup v s.tracker = none) :
    Inv { s with waiting := wremove bid v s.waiting } m (pendOn o vs) := by
  refine hI.transfer_tables rfl rfl (fun k v' h => ((mem_wget_wremove _ _ _ _ _).mp h).1)
    fun x hx => (hI.obj hx).congr rfl rfl rfl (fun _ => rfl) ?_
  intro h1 _ b ⟨hb, hmem, hp⟩
  have hne : aidOf s x ≠ v := fun e => by rw [e, hl] at h1; cases h1
  refine ⟨hb, (mem_wget_wremove _ _ _ _ _).mpr ⟨hmem, fun e => hne e.2⟩, hp.imp_right fun h => ⟨h.1, ?_⟩⟩
  exact (List.mem_cons.mp h.2).resolve_left hne

/-- One round.  The third conclusion carries "every `v'` still to come is filed under `bid` or untracked"
to the next round. -/
theorem unlockView_inv {m : Nat → Nat} {o bid v : Nat} {vs : List Nat} {s : State}
    (hI : Inv s m (pendOn o (v :: vs))) (ho : isAlive s o = true) (hwo : wOf s o = true)
    (hbid : bid = aidOf s o) (hv : v ∈ wget s.waiting bid ∨ lookup v s.tracker = none) :
    Inv (unlockView bid v s) m (pendOn o vs) ∧ wOf (unlockView bid v s) o = true ∧
      ∀ v', (v' ∈ wget s.waiting bid ∨ lookup v' s.tracker = none) →
        v' ∈ wget (unlockView bid v s).waiting bid ∨ lookup v' (unlockView bid v s).tracker = none := by
  unfold unlockView
  by_cases hcv : 0 < cget s.counter v
  · rw [if_pos hcv]
    refine ⟨hI.refine_pend (fun _ _ _ => rfl) ?_, hwo, fun _ h => h⟩
    -- a view that is counted again is not waiting
    intro x b _ _ hc0 ⟨hb, hmem⟩
    exact ⟨hb, (List.mem_cons.mp hmem).resolve_left fun e => by rw [e] at hc0; omega⟩
  rw [if_neg hcv]
  -- in the three remaining cases the tracker ends up as `erase v`, the waiting sets as `wremove bid v`
  have hJ : ∀ tr : Tab Nat, (∀ i, lookup i tr = if i = v then none else lookup i s.tracker) →
      ∀ v', (v' ∈ wget s.waiting bid ∨ lookup v' s.tracker = none) →
        v' ∈ wget (wremove bid v s.waiting) bid ∨ lookup v' tr = none := by
    intro tr ht v' h
    rw [ht]
    by_cases e : v' = v
    · exact Or.inr (if_pos e)
    · rw [if_neg e]
      exact h.imp_left fun h => (mem_wget_wremove _ _ _ _ _).mpr ⟨h, fun e' => e e'.2⟩
  have hle : ∀ i, lookup i (erase v s.tracker) = if i = v then none else lookup i s.tracker :=
    fun i => lookup_erase v i s.tracker
  cases hl : lookup v s.tracker with
  | none =>
    refine ⟨inv_wremove_pend hI hl, hwo, hJ _ fun i => ?_⟩
    by_cases e : i = v
    · rw [if_pos e, e]; exact hl
    · rw [if_neg e]
  | some t =>
    dsimp only
    cases hta : isAlive s t with
    | false =>
      rw [if_neg Bool.false_ne_true]
      exact ⟨inv_wremove_pend (inv_tracker_erase_dead hI v t hl hta) ((hle v).trans (if_pos rfl)), hwo, hJ _ hle⟩
    | true =>
      have htaid : aidOf s t = v := hI.trkAid v t hl hta
      -- the view's base is `o`, which is writeable: NumPy accepts the assignment
      obtain ⟨b, hb, hbaid⟩ := hI.waitOk bid v t (hv.resolve_right (by rw [hl]; nofun)) hta htaid
      have hbo : b = o := hI.aidInj b o (hI.baseOk t b hta hb).1 ho (hbaid.trans hbid)
      subst hbo
      rw [if_pos rfl, trySet_pos (s := { s with waiting := wremove bid v s.waiting, tracker := erase v s.tracker })
        hta fun b' hb' => by rw [show baseOf s t = some b' from hb'] at hb; cases hb; exact hwo]
      have hI1 : Inv (modArr { s with tracker := erase v s.tracker } t setWt) m (pendOn b (v :: vs)) :=
        inv_unlock_view hI hta (by rw [htaid]; exact hl) (by rw [htaid]; omega)
        (sameStatic_of_modify flagOnly_setWt rfl)
        (fun x hx => get_modArr_ne _ _ hx) (wOf_modArr_self _ (fun _ => rfl) hta) rfl
        (fun i => by rw [htaid]; exact hle i) rfl
      refine ⟨inv_wremove_pend hI1 ((hle v).trans (if_pos rfl)), ?_, hJ _ hle⟩
      by_cases hx : b = t
      · rw [hx]; exact wOf_modArr_self _ (fun _ => rfl) hta
      · rw [wOf_modArr_ne _ _ _ _ hx]; exact hwo

/-- the loop over the views that wait for base `o`, which has just become writeable -/
theorem unlockViews_inv {m : Nat → Nat} (o bid : Nat) : ∀ (L : List Nat) (s : State),
    Inv s m (pendOn o L) → isAlive s o = true → wOf s o = true → bid = aidOf s o →
    (∀ v ∈ L, v ∈ wget s.waiting bid ∨ lookup v s.tracker = none) →
    Inv (unlockViews bid L s) m F := by
  intro L
  induction L with
  | nil => exact fun s hI _ _ _ _ => hI.mono_pend (fun _ _ h => nomatch h.2)
  | cons v vs ih =>
    intro s hI ho hwo hbid hJ
    obtain ⟨r1, r2, r3⟩ := unlockView_inv hI ho hwo hbid (hJ v (List.mem_cons_self ..))
    have hS := (unlockView_frame bid v s).1
    rw [unlockViews_cons]
    exact ih _ r1 (by rw [hS.alive]; exact ho) r2 (by rw [hS.aid]; exact hbid)
      fun v' hv' => r3 v' (hJ v' (List.mem_cons_of_mem _ hv'))

theorem unlockSelf_frame (s : State) (o : Nat) (a : Arr) : Frame s (unlockSelf s o a) := by
  unfold unlockSelf
  dsimp only
  split <;> exact (trySet_frame s o).trans .of_arrs

theorem releaseSelf_frame (s : State) (o : Nat) (a : Arr) : Frame s (releaseSelf s o a) := by
  unfold releaseSelf
  dsimp only
  split
  · split
    · exact .trans .of_arrs (unlockSelf_frame _ o a)
    · split
      · exact .trans .of_arrs (unlockSelf_frame _ o a)
      · exact .of_arrs
  · split
    · exact .of_arrs
    · exact .refl s

theorem release_frame (s : State) (o : Nat) : Frame s (release s o) := by
  unfold release
  split
  · exact .refl s
  · next a _ =>
    dsimp only
    have h1 := releaseSelf_frame s o a
    split
    · have h2 := h1.trans (unlockViews_frame a.aid (wget (releaseSelf s o a).waiting a.aid) _)
      split
      · exact h2.trans .of_arrs
      · exact h2
    · exact h1

theorem unlockSelf_inv {s : State} {m} (hI : Inv s m F) {o : Nat} {a : Arr}
    (hs : s.arrs[o]? = some a) (ho : isAlive s o = true) (horig : origOf s o = true)
    (hc1 : cget s.counter (aidOf s o) = 1) (hbw : ∀ b, baseOf s o = some b → wOf s b = true) :
    Inv (unlockSelf { s with counter := erase (aidOf s o) s.counter } o a)
      (fun x => if x = o then m x - 1 else m x)
      (pendSelf (unlockSelf { s with counter := erase (aidOf s o) s.counter } o a) o) := by
  have haid : a.aid = aidOf s o := (acc_get hs).2.1.symm
  unfold unlockSelf
  rw [trySet_pos (s := { s with counter := erase (aidOf s o) s.counter }) ho hbw, haid]
  dsimp only
  -- the state before the optional `clear()`
  have hS3 : SameStatic s { modArr { s with counter := erase (aidOf s o) s.counter } o setWt with
      tracker := erase (aidOf s o) s.tracker } := sameStatic_of_modify flagOnly_setWt rfl
  have hw3 : wOf (modArr { s with counter := erase (aidOf s o) s.counter } o setWt) o = true :=
    wOf_modArr_self _ (fun _ => rfl) ho
  have hI3 := inv_unlockSelf hI ho horig hc1 hS3 (fun x hx => get_modArr_ne _ _ hx) hw3
    (fun i => cget_erase ..) (fun i => lookup_erase ..) rfl
  split
  · next hcl =>
    simp only [Bool.and_eq_true] at hcl
    exact inv_clear_waiting _ hI3 (lookup_of_isEmpty hcl.1)
  · exact hI3

theorem releaseSelf_inv {s : State} {m} (hI : Inv s m F) {o : Nat} {a : Arr}
    (hs : s.arrs[o]? = some a) (ho : isAlive s o = true) (hm : origOf s o = true → 0 < m o) :
    Inv (releaseSelf s o a) (fun x => if x = o then m x - 1 else m x) (pendSelf (releaseSelf s o a) o) := by
  obtain ⟨-, haid, hbase, -⟩ := acc_get hs
  have hF : ∀ {s' : State} {m'}, Inv s' m' F → Inv s' m' (pendSelf s' o) := fun h => h.mono_pend fun _ _ => False.elim
  unfold releaseSelf
  rw [← haid, ← hbase]
  dsimp only
  cases horig : origOf s o with
  | false =>
    rw [((hI.obj ho).ro horig).2.1, if_neg (by decide), if_neg (by decide)]
    exact hF (hI.congr_m fun x _ hxo => if_neg fun e => by rw [e, horig] at hxo; cases hxo)
  | true =>
    have hcm := (hI.obj ho).rwCnt horig
    have hpos := hm horig
    by_cases hc1 : cget s.counter (aidOf s o) = 1
    · -- the last lock is released
      rw [if_pos hc1]
      cases hb : baseOf s o with
      | none => exact unlockSelf_inv hI hs ho horig hc1 (fun b h => by rw [hb] at h; cases h)
      | some b =>
        dsimp only
        cases hwb : wOf s b with
        | true =>
          have hwb' : wOf { s with counter := erase (aidOf s o) s.counter } b = true := hwb
          rw [if_pos hwb']
          exact unlockSelf_inv hI hs ho horig hc1 (fun b' h => by rw [hb] at h; cases h; exact hwb)
        | false =>
          have hwb' : wOf { s with counter := erase (aidOf s o) s.counter } b = false := hwb
          rw [hwb', if_neg Bool.false_ne_true]
          exact hF (inv_wait hI ho horig hb hwb hc1)
    · -- other ops still hold the array
      rw [if_neg hc1, if_pos (by omega)]
      exact hF (inv_decr hI ho horig (by omega))

/-- `_release_lock_on_arr_writeability` preserves the invariant; the expected hold count of `o` drops by one -/
theorem release_inv {s : State} {m} (hI : Inv s m F) {o : Nat}
    (ho : isAlive s o = true) (hm : origOf s o = true → 0 < m o) :
    Inv (release s o) (fun x => if x = o then m x - 1 else m x) F := by
  obtain ⟨a, hs, _⟩ := arr_of_alive ho
  obtain ⟨-, haid, hbase, -⟩ := acc_get hs
  have r1 := releaseSelf_inv hI hs ho hm
  have r3 := (releaseSelf_frame s o a).1
  unfold release
  simp only [hs]
  generalize releaseSelf s o a = s1 at r1 r3
  have haid1 : a.aid = aidOf s1 o := by rw [r3.aid, haid]
  by_cases hcond : (a.base.isNone && wOf s1 o && (lookup a.aid s1.waiting).isSome) = true
  · rw [if_pos hcond]
    simp only [Bool.and_eq_true] at hcond
    have q1 := unlockViews_inv o a.aid (wget s1.waiting a.aid) s1
      (r1.mono_pend fun b i h => ⟨h.1, haid1 ▸ h.2.2.2⟩) (by rw [r3.alive]; exact ho) hcond.1.2 haid1
      (fun v hv => Or.inl hv)
    generalize unlockViews a.aid (wget s1.waiting a.aid) s1 = s2 at q1 ⊢
    split
    · next hemp =>
      refine q1.congr_waiting _ fun k => ?_
      rw [wget_erase]
      split
      · subst_vars; exact (List.isEmpty_iff.mp hemp).symm
      · rfl
    · exact q1
  · rw [if_neg hcond]
    -- nothing is pending: `o` is a view, or read-only, or no set is filed under its address
    refine r1.mono_pend ?_
    rintro b i ⟨_, hw, hbn, hi⟩
    apply hcond
    rw [← haid1] at hi
    have hkey : (lookup a.aid s1.waiting).isSome = true := by
      unfold wget at hi
      cases hl : lookup a.aid s1.waiting with
      | none => rw [hl] at hi; cases hi
      | some l => rfl
    rw [r3.base, hbase] at hbn
    simp [hbn, hw, hkey]

theorem releaseOnOp_frame : ∀ (l : List Nat) (s : State), Frame s (releaseOnOp l s)
  | [], s => .refl s
  | o :: os, s => by
    unfold releaseOnOp
    split
    · exact (release_frame s o).trans (releaseOnOp_frame os _)
    · exact releaseOnOp_frame os s

theorem releaseOnOp_inv : ∀ (l : List Nat) (s : State) (m : Nat → Nat),
    Inv s (fun x => m x + l.count x) F → Inv (releaseOnOp l s) m F := by
  intro l
  induction l with
  | nil => exact fun s m hI => hI.congr_m (fun x _ _ => by simp)
  | cons o os ih =>
    intro s m hI
    unfold releaseOnOp
    cases ho : isAlive s o with
    | true =>
      rw [if_pos rfl]
      refine ih (release s o) m ((release_inv hI ho fun _ => ?_).congr_m fun x _ _ => ?_)
      · show 0 < m o + (o :: os).count o
        rw [count_cons_eq, if_pos rfl]; omega
      · show m x + os.count x = if x = o then m x + (o :: os).count x - 1 else m x + (o :: os).count x
        rw [count_cons_eq]
        split <;> omega
    | false =>
      rw [if_neg Bool.false_ne_true]
      refine ih s m (hI.congr_m fun x hx _ => ?_)
      show m x + os.count x = m x + (o :: os).count x
      rw [count_cons_eq, if_neg fun e => by rw [e, ho] at hx; cases hx]; rfl

/-- the side condition of `lock_inv`, for a list processed left to right.  `seen` are arrays already
known to be tracked (if their original flag is writeable). -/
def LockOK (s0 : State) : List Nat → List Nat → Prop
  | _, [] => True
  | seen, x :: l =>
    (wOf s0 x = true ∨ x ∈ seen ∨ baseOf s0 x = none ∨ ∃ b, baseOf s0 x = some b ∧ b ∈ seen) ∧
      LockOK s0 (x :: seen) l

theorem LockOK_weaken (s0 : State) : ∀ (l seen seen' : List Nat), (∀ y, y ∈ seen → y ∈ seen') →
    LockOK s0 seen l → LockOK s0 seen' l := by
  intro l
  induction l with
  | nil => intros; trivial
  | cons x l ih =>
    intro seen seen' hsub ⟨h1, h2⟩
    exact ⟨h1.imp_right (Or.imp (hsub x) (Or.imp_right fun ⟨b, hb, hbs⟩ => ⟨b, hb, hsub b hbs⟩)),
      ih (x :: seen) (x :: seen') (fun _ hy => List.cons_subset_cons x (fun _ h => hsub _ h) hy) h2⟩

/-- locking an array already listed as seen keeps the side condition of the arrays still to be locked:
it changes no flag but its own -/
theorem LockOK_lock (s : State) {x : Nat} (force : Bool) : ∀ (l seen : List Nat),
    x ∈ seen → LockOK s seen l → LockOK (lock s x force) seen l := by
  have hS := lock_static s x force
  intro l
  induction l with
  | nil => intros; trivial
  | cons y l ih =>
    intro seen hmem ⟨h1, h2⟩
    refine ⟨?_, ih (y :: seen) (List.mem_cons_of_mem _ hmem) h2⟩
    rw [hS.base]
    by_cases e : y = x
    · exact Or.inr (Or.inl (e ▸ hmem))
    · rw [wOf_lock_ne s force e]; exact h1

theorem lockAll_frame : ∀ (l : List Nat) (s : State), Frame s (lockAll l s)
  | [], s => .refl s
  | o :: os, s => (lock_frame s o false).trans (lockAll_frame os _)

/-- "lock every array of `l`", each array being writeable, an owner, already tracked or a view of a tracked
base when its turn comes (`LockOK`, with `seen` the arrays known to be tracked) -/
theorem lockAll_inv {P : Nat → Nat → Prop} : ∀ (l : List Nat) (s : State) (m : Nat → Nat) (seen : List Nat),
    Inv s m P → (∀ x ∈ l, isAlive s x = true) →
    (∀ y ∈ seen, isAlive s y = true → origOf s y = true → lookup (aidOf s y) s.tracker = some y) →
    LockOK s seen l → Inv (lockAll l s) (fun x => m x + l.count x) P := by
  intro l
  induction l with
  | nil => exact fun s m seen hI _ _ _ => hI.congr_m (fun x _ _ => by simp)
  | cons o os ih =>
    intro s m seen hI hal hT ⟨hside0, hOK⟩
    have hTab := hI.toTabOK
    have ho : isAlive s o = true := hal o (List.mem_cons_self ..)
    have hside : origOf s o = true → wOf s o = true ∨ isTracked s o = true ∨ false = true ∨
        ∃ b, baseOf s o = some b ∧ isTracked s b = true := by
      intro horig
      rcases hside0 with h | h | h | ⟨b, hb, hbs⟩
      · exact Or.inl h
      · exact Or.inr (Or.inl ((isTracked_iff hTab ho).mpr (hT o h ho horig)))
      · -- an owner is free, hence writeable, or tracked
        rcases tracker_cases hTab ho with h' | h'
        · exact Or.inl ((hI.obj ho).rwFree horig h' (Or.inr h))
        · exact Or.inr (Or.inl ((isTracked_iff hTab ho).mpr h'))
      · obtain ⟨hba, _, hbo⟩ := hI.baseOk o b ho hb
        rw [horig] at hbo
        exact Or.inr (Or.inr (Or.inr ⟨b, hb, (isTracked_iff hTab hba).mpr (hT b hbs hba hbo)⟩))
    obtain ⟨r1, r2, r3⟩ := lock_inv hI false ho hside (fun _ => rfl)
    have hS := lock_static s o false
    refine (ih (lock s o false) _ (o :: seen) r1
      (fun x hx => by rw [hS.alive]; exact hal x (List.mem_cons_of_mem _ hx)) ?_
      (LockOK_lock s false os _ (List.mem_cons_self ..) hOK)).congr_m ?_
    · intro y hy hya hyo
      rw [hS.alive] at hya; rw [hS.orig] at hyo; rw [hS.aid]
      rcases List.mem_cons.mp hy with h | h
      · subst h; exact r2 hyo
      · exact r3 _ _ (hT y h hya hyo)
    · intro x _ _
      show m x + (o :: os).count x = (if x = o then m x + 1 else m x) + os.count x
      rw [count_cons_eq]
      split <;> omega

theorem contains_aid {s : State} (hT : TabOK s) {seen : List Nat} (hO : ∀ y ∈ seen, isAlive s y = true) {b : Nat}
    (hb : isAlive s b = true) : (seen.map (aidOf s)).contains (aidOf s b) = true ↔ b ∈ seen := by
  rw [List.contains_iff_mem, List.mem_map]
  constructor
  · rintro ⟨y, hy, e⟩
    rw [← hT.aidInj y b (hO y hy) hb e]; exact hy
  · exact fun h => ⟨b, h, rfl⟩

/-- `unique_arrs_and_bases` yields live arrays, each base before (or instead of being repeated after) its view.
`seen` lists the arrays whose addresses the generator has recorded. -/
theorem uniqAux_ok {s : State} (hT : TabOK s) : ∀ (ins seen : List Nat),
    (∀ x ∈ ins, isAlive s x = true) → (∀ y ∈ seen, isAlive s y = true) →
    LockOK s seen (uniqAux s ins (seen.map (aidOf s))) ∧
      (∀ x ∈ uniqAux s ins (seen.map (aidOf s)), isAlive s x = true) := by
  intro ins
  induction ins with
  | nil => intros; exact ⟨trivial, by simp [uniqAux]⟩
  | cons o os ih =>
    intro seen hal hO
    have ho : isAlive s o = true := hal o (List.mem_cons_self ..)
    have hal' : ∀ x ∈ os, isAlive s x = true := fun x hx => hal x (List.mem_cons_of_mem _ hx)
    obtain ⟨a, hs, _⟩ := arr_of_alive ho
    obtain ⟨-, haid, hbase, -⟩ := acc_get hs
    have hO' : ∀ y ∈ o :: seen, isAlive s y = true := List.forall_mem_cons.mpr ⟨ho, hO⟩
    unfold uniqAux
    simp only [hs, ← haid, ← hbase]
    by_cases hc : (seen.map (aidOf s)).contains (aidOf s o) = true
    · simp only [if_pos hc]; exact ih seen hal' hO
    · simp only [if_neg hc]
      cases hb : baseOf s o with
      | none =>
        simp only [← List.map_cons]
        obtain ⟨r1, r2⟩ := ih (o :: seen) hal' hO'
        exact ⟨⟨Or.inr (Or.inr (Or.inl hb)), r1⟩, List.forall_mem_cons.mpr ⟨ho, r2⟩⟩
      | some b =>
        obtain ⟨hba, hbb, _⟩ := hT.baseOk o b ho hb
        simp only [contains_aid hT hO hba]
        by_cases hbmem : b ∈ seen
        · simp only [if_pos hbmem, ← List.map_cons]
          obtain ⟨r1, r2⟩ := ih (o :: seen) hal' hO'
          exact ⟨⟨Or.inr (Or.inr (Or.inr ⟨b, hb, hbmem⟩)), r1⟩, List.forall_mem_cons.mpr ⟨ho, r2⟩⟩
        · simp only [if_neg hbmem, ← List.map_cons]
          obtain ⟨r1, r2⟩ := ih (o :: b :: seen) hal' (List.forall_mem_cons.mpr ⟨ho, List.forall_mem_cons.mpr ⟨hba, hO⟩⟩)
          exact ⟨⟨Or.inr (Or.inr (Or.inl hbb)), Or.inr (Or.inr (Or.inr ⟨b, hb, List.mem_cons_self ..⟩)), r1⟩,
            List.forall_mem_cons.mpr ⟨hba, List.forall_mem_cons.mpr ⟨ho, r2⟩⟩⟩

theorem uniq_ok {s : State} (hT : TabOK s) (ins : List Nat) (hal : ∀ x ∈ ins, isAlive s x = true) :
    LockOK s [] (uniqueArrsAndBases s ins) ∧ (∀ x ∈ uniqueArrsAndBases s ins, isAlive s x = true) :=
  uniqAux_ok hT ins [] hal (by simp)

end MG.Lock
