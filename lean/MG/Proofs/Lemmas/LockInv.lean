import MG.Proofs.Lemmas.LockTab
/-! The invariant of the lock tables (C08), and the lemmas through which the steps preserve it:
`ObjOK.congr` (what a step must leave alone for one array's part to survive), `TabOK.transfer` (the tables'
part survives when no live array is new) and `Inv.transfer` (both, for a step that keeps the static heap). -/
namespace MG.Lock

/-- two states with the same static heap (addresses, bases, liveness, original flags) -/
structure SameStatic (s s' : State) : Prop where
  alive : ∀ x, isAlive s' x = isAlive s x
  aid : ∀ x, aidOf s' x = aidOf s x
  base : ∀ x, baseOf s' x = baseOf s x
  orig : ∀ x, origOf s' x = origOf s x
  len : s'.arrs.length = s.arrs.length

theorem SameStatic.refl (s : State) : SameStatic s s :=
  ⟨fun _ => rfl, fun _ => rfl, fun _ => rfl, fun _ => rfl, rfl⟩

theorem SameStatic.trans {s1 s2 s3 : State} (h12 : SameStatic s1 s2) (h23 : SameStatic s2 s3) :
    SameStatic s1 s3 :=
  ⟨fun x => (h23.alive x).trans (h12.alive x), fun x => (h23.aid x).trans (h12.aid x),
   fun x => (h23.base x).trans (h12.base x), fun x => (h23.orig x).trans (h12.orig x), h23.len.trans h12.len⟩

theorem sameStatic_of_arrs {s s' : State} (h : s'.arrs = s.arrs) : SameStatic s s' :=
  have e := fun x => acc_of_get (s := s) (s' := s') (x := x) (by rw [h])
  ⟨fun x => (e x).alive, fun x => (e x).aid, fun x => (e x).base, fun x => (e x).orig, by rw [h]⟩

theorem sameStatic_modArr (s : State) (o : Nat) (f : Arr → Arr) (hf : FlagOnly f) :
    SameStatic s (modArr s o f) :=
  have e := static_modArr s o f hf
  ⟨fun x => (e x).1, fun x => (e x).2.1, fun x => (e x).2.2.1, fun x => (e x).2.2.2, length_modArr s o f⟩

theorem sameStatic_of_modify {s s' : State} {o : Nat} {f : Arr → Arr} (hf : FlagOnly f)
    (h : s'.arrs = s.arrs.modify o f) : SameStatic s s' :=
  (sameStatic_modArr s o f hf).trans (sameStatic_of_arrs (s := modArr s o f) h)

/-- the heap and the two tables that point into it; nothing about counters or flags -/
structure TabOK (s : State) : Prop where
  aidInj : ∀ o1 o2, isAlive s o1 = true → isAlive s o2 = true → aidOf s o1 = aidOf s o2 → o1 = o2
  baseOk : ∀ o b, isAlive s o = true → baseOf s o = some b →
    isAlive s b = true ∧ baseOf s b = none ∧ origOf s b = origOf s o
  trkAid : ∀ i t, lookup i s.tracker = some t → isAlive s t = true → aidOf s t = i
  trkUniq : ∀ i t o, lookup i s.tracker = some t → isAlive s o = true → aidOf s o = i → t = o
  waitOk : ∀ k v o, v ∈ wget s.waiting k → isAlive s o = true → aidOf s o = v →
    ∃ b, baseOf s o = some b ∧ aidOf s b = k
  trkLt : ∀ i t, lookup i s.tracker = some t → t < s.arrs.length

/-- view `o` is filed under its base `b`, and `b` is still locked (or `pend` excuses it) -/
def WaitsFor (s : State) (pend : Nat → Nat → Prop) (o b : Nat) : Prop :=
  baseOf s o = some b ∧ aidOf s o ∈ wget s.waiting (aidOf s b) ∧
    (0 < cget s.counter (aidOf s b) ∨ pend b (aidOf s o))

/-- What counter, tracker, waiting sets and flag say about the one array `o`, given the number `m o` of
live holds on it.  An array whose original flag is read-only is never touched; one whose original flag
is writeable is *locked* (`rwLocked`), *free* (`rwFree`) or *waiting* for its base (`rwWait`). -/
structure ObjOK (s : State) (m : Nat → Nat) (pend : Nat → Nat → Prop) (o : Nat) : Prop where
  ro : origOf s o = false →
    wOf s o = false ∧ cget s.counter (aidOf s o) = 0 ∧ lookup (aidOf s o) s.tracker = none
  rwCnt : origOf s o = true → cget s.counter (aidOf s o) = m o
  rwLocked : origOf s o = true → 0 < cget s.counter (aidOf s o) →
    lookup (aidOf s o) s.tracker = some o ∧ wOf s o = false
  rwFree : origOf s o = true → lookup (aidOf s o) s.tracker = none →
    (enteredOf s o = true ∨ baseOf s o = none) → wOf s o = true
  rwWait : origOf s o = true → lookup (aidOf s o) s.tracker = some o →
    cget s.counter (aidOf s o) = 0 → wOf s o = false ∧ ∃ b, WaitsFor s pend o b

/-- The invariant.  `pend b i` relaxes "the base a waiting view waits for is locked": while the release
function runs, the base `b` it has just made writeable still has waiting views (those at the addresses
`i` its loop has not reached yet).  Between events `pend` is empty. -/
structure Inv (s : State) (m : Nat → Nat) (pend : Nat → Nat → Prop) : Prop extends TabOK s where
  obj : ∀ {o}, isAlive s o = true → ObjOK s m pend o

/-- nothing is pending -/
abbrev F : Nat → Nat → Prop := fun _ _ => False

theorem ObjOK.readonly {s : State} {m : Nat → Nat} {P : Nat → Nat → Prop} {o : Nat} (horig : origOf s o = false)
    (h : wOf s o = false ∧ cget s.counter (aidOf s o) = 0 ∧ lookup (aidOf s o) s.tracker = none) :
    ObjOK s m P o where
  ro _ := h
  rwCnt h' := by rw [horig] at h'; cases h'
  rwLocked h' := by rw [horig] at h'; cases h'
  rwFree h' := by rw [horig] at h'; cases h'
  rwWait h' := by rw [horig] at h'; cases h'

section status
variable {s : State} {m : Nat → Nat} {P : Nat → Nat → Prop} {o : Nat} (horig : origOf s o = true)
include horig

theorem ObjOK.locked (hc : cget s.counter (aidOf s o) = m o) (hpos : 0 < m o)
    (ht : lookup (aidOf s o) s.tracker = some o) (hw : wOf s o = false) : ObjOK s m P o where
  ro h := by rw [horig] at h; cases h
  rwCnt _ := hc
  rwLocked _ _ := ⟨ht, hw⟩
  rwFree _ h := by rw [ht] at h; cases h
  rwWait _ _ h := by omega

theorem ObjOK.free (hc : cget s.counter (aidOf s o) = 0) (hm : m o = 0)
    (ht : lookup (aidOf s o) s.tracker = none)
    (hw : enteredOf s o = true ∨ baseOf s o = none → wOf s o = true) : ObjOK s m P o where
  ro h := by rw [horig] at h; cases h
  rwCnt _ := hc.trans hm.symm
  rwLocked _ h := by omega
  rwFree _ _ := hw
  rwWait _ h := by rw [ht] at h; cases h

theorem ObjOK.waiting (hc : cget s.counter (aidOf s o) = 0) (hm : m o = 0)
    (ht : lookup (aidOf s o) s.tracker = some o) (hw : wOf s o = false) {b : Nat}
    (hb : WaitsFor s P o b) : ObjOK s m P o where
  ro h := by rw [horig] at h; cases h
  rwCnt _ := hc.trans hm.symm
  rwLocked _ h := by omega
  rwFree _ h := by rw [ht] at h; cases h
  rwWait _ _ _ := ⟨hw, b, hb⟩

end status

theorem TabOK.aid_ne {s : State} (hT : TabOK s) {x o : Nat} (hx : isAlive s x = true)
    (ho : isAlive s o = true) (h : x ≠ o) : aidOf s x ≠ aidOf s o :=
  fun e => h (hT.aidInj x o hx ho e)

/-- `ObjOK` at `x` reads the state only through `x`'s own record, the counter and tracker entries at
`x`'s address and, when `x` is a waiting view, `WaitsFor`: a step that leaves these alone leaves
`ObjOK` at `x` alone. -/
theorem ObjOK.congr {s s' : State} {m m' : Nat → Nat} {P P' : Nat → Nat → Prop} {x : Nat}
    (h : ObjOK s m P x) (ha : s'.arrs[x]? = s.arrs[x]?)
    (hc : cget s'.counter (aidOf s x) = cget s.counter (aidOf s x))
    (ht : lookup (aidOf s x) s'.tracker = lookup (aidOf s x) s.tracker)
    (hm : origOf s x = true → m' x = m x)
    (hW : lookup (aidOf s x) s.tracker = some x → cget s.counter (aidOf s x) = 0 →
      ∀ b, WaitsFor s P x b → WaitsFor s' P' x b) :
    ObjOK s' m' P' x := by
  obtain ⟨-, e2, e3, e4, e5, e6⟩ := acc_of_get ha
  constructor
  · rw [e4, e5, e2, hc, ht]; exact h.ro
  · rw [e4, e2, hc]; intro ho; rw [hm ho]; exact h.rwCnt ho
  · rw [e4, e2, hc, ht, e5]; exact h.rwLocked
  · rw [e4, e2, ht, e6, e3, e5]; exact h.rwFree
  · rw [e4, e2, ht, hc, e5]
    intro ho h1 h2
    obtain ⟨hw0, b, hb⟩ := h.rwWait ho h1 h2
    exact ⟨hw0, b, hW h1 h2 b hb⟩

/-- `TabOK` speaks of live arrays only, through their address, base and original flag.  It survives a step
after which every live array was live before, with these three unchanged and its base still live; every
tracker entry is an old one or points a live array's address at that array; every waiting entry is an old
one or files a live view under its base's address. -/
theorem TabOK.transfer {s s' : State} (hT : TabOK s) (hlen : s.arrs.length ≤ s'.arrs.length)
    (hsub : ∀ x, isAlive s' x = true → isAlive s x = true ∧ aidOf s' x = aidOf s x ∧
      baseOf s' x = baseOf s x ∧ origOf s' x = origOf s x ∧ ∀ b, baseOf s x = some b → isAlive s' b = true)
    (htrk : ∀ i t, lookup i s'.tracker = some t →
      lookup i s.tracker = some t ∨ (isAlive s t = true ∧ aidOf s t = i))
    (hwt : ∀ k v, v ∈ wget s'.waiting k → v ∈ wget s.waiting k ∨
      ∃ o b, isAlive s o = true ∧ aidOf s o = v ∧ baseOf s o = some b ∧ aidOf s b = k) :
    TabOK s' := by
  constructor
  · intro o1 o2 h1 h2 e
    obtain ⟨a1, e1, -⟩ := hsub o1 h1
    obtain ⟨a2, e2, -⟩ := hsub o2 h2
    exact hT.aidInj o1 o2 a1 a2 (e1.symm.trans (e.trans e2))
  · intro x b hx hb
    obtain ⟨ax, -, ebx, eox, hbl⟩ := hsub x hx
    rw [ebx] at hb
    obtain ⟨-, -, ebb, eob, -⟩ := hsub b (hbl b hb)
    rw [ebb, eob, eox]
    exact ⟨hbl b hb, (hT.baseOk x b ax hb).2⟩
  · intro i t hl hta
    obtain ⟨at', et, -⟩ := hsub t hta
    rw [et]
    rcases htrk i t hl with h | h
    · exact hT.trkAid i t h at'
    · exact h.2
  · intro i t x hl hx hxa
    obtain ⟨ax, ex, -⟩ := hsub x hx
    rw [ex] at hxa
    rcases htrk i t hl with h | h
    · exact hT.trkUniq i t x h ax hxa
    · exact hT.aidInj t x h.1 ax (h.2.trans hxa.symm)
  · intro k v x hv hx hxa
    obtain ⟨ax, ex, ebx, -, hbl⟩ := hsub x hx
    rw [ex] at hxa; rw [ebx]
    have : ∃ b, baseOf s x = some b ∧ aidOf s b = k := by
      rcases hwt k v hv with h | ⟨o, b, ho, hov, hb, hbk⟩
      · exact hT.waitOk k v x h ax hxa
      · cases hT.aidInj o x ho ax (hov.trans hxa.symm); exact ⟨b, hb, hbk⟩
    obtain ⟨b, hb, hbk⟩ := this
    exact ⟨b, hb, (hsub b (hbl b hb)).2.1.trans hbk⟩
  · intro i t hl
    rcases htrk i t hl with h | h
    · exact Nat.lt_of_lt_of_le (hT.trkLt i t h) hlen
    · exact Nat.lt_of_lt_of_le (isAlive_lt h.1) hlen

theorem Inv.transfer {s s' : State} {m m' : Nat → Nat} {P P' : Nat → Nat → Prop} (hI : Inv s m P)
    (hS : SameStatic s s')
    (htrk : ∀ i t, lookup i s'.tracker = some t →
      lookup i s.tracker = some t ∨ (isAlive s t = true ∧ aidOf s t = i))
    (hwt : ∀ k v, v ∈ wget s'.waiting k → v ∈ wget s.waiting k ∨
      ∃ o b, isAlive s o = true ∧ aidOf s o = v ∧ baseOf s o = some b ∧ aidOf s b = k)
    (hO : ∀ x, isAlive s x = true → ObjOK s' m' P' x) : Inv s' m' P' :=
  have hal : ∀ {x}, isAlive s' x = true → isAlive s x = true := fun h => hS.alive _ ▸ h
  ⟨hI.toTabOK.transfer (Nat.le_of_eq hS.len.symm) (fun x hx => ⟨hal hx, hS.aid x, hS.base x, hS.orig x,
      fun b hb => (hS.alive b).trans (hI.baseOk x b (hal hx) hb).1⟩) htrk hwt,
    fun {x} hx => hO x (hal hx)⟩

theorem Inv.transfer_tables {s s' : State} {m m' : Nat → Nat} {P P' : Nat → Nat → Prop} (hI : Inv s m P)
    (ha : s'.arrs = s.arrs) (ht : s'.tracker = s.tracker)
    (hwt : ∀ k v, v ∈ wget s'.waiting k → v ∈ wget s.waiting k)
    (hO : ∀ x, isAlive s x = true → ObjOK s' m' P' x) : Inv s' m' P' :=
  hI.transfer (sameStatic_of_arrs ha) (fun _ _ h => Or.inl (ht ▸ h)) (fun k v h => Or.inl (hwt k v h)) hO

theorem Inv.refine_pend {s : State} {m m' : Nat → Nat} {P Q : Nat → Nat → Prop} (hI : Inv s m P)
    (hm : ∀ x, isAlive s x = true → origOf s x = true → m' x = m x)
    (h : ∀ x b, isAlive s x = true → lookup (aidOf s x) s.tracker = some x →
      cget s.counter (aidOf s x) = 0 → P b (aidOf s x) → Q b (aidOf s x)) : Inv s m' Q :=
  ⟨hI.toTabOK, fun {x} hx => (hI.obj hx).congr rfl rfl rfl (hm x hx)
    fun h1 h2 b hb => ⟨hb.1, hb.2.1, hb.2.2.imp_right (h x b hx h1 h2)⟩⟩

theorem Inv.congr_m {s : State} {m m' : Nat → Nat} {P : Nat → Nat → Prop} (hI : Inv s m P)
    (h : ∀ x, isAlive s x = true → origOf s x = true → m' x = m x) : Inv s m' P :=
  hI.refine_pend h fun _ _ _ _ _ hp => hp

theorem Inv.mono_pend {s : State} {m : Nat → Nat} {P Q : Nat → Nat → Prop} (hI : Inv s m P)
    (h : ∀ b i, P b i → Q b i) : Inv s m Q :=
  hI.refine_pend (fun _ _ _ => rfl) fun _ b _ _ _ => h b _

theorem Inv.congr_holds {s : State} {m P} (hI : Inv s m P) (hs' : List (List Nat)) :
    Inv { s with holds := hs' } m P :=
  hI.transfer_tables rfl rfl (fun _ _ h => h) fun _ hx => (hI.obj hx).congr rfl rfl rfl (fun _ => rfl)
    fun _ _ _ hb => hb

/-- under the invariant, `array_is_tracked(arr)` means: the tracker entry at `id(arr)` is `arr` -/
theorem isTracked_iff {s : State} (hT : TabOK s) {o : Nat} (ho : isAlive s o = true) :
    isTracked s o = true ↔ lookup (aidOf s o) s.tracker = some o := by
  obtain ⟨a, hs, _⟩ := arr_of_alive ho
  have haid := (acc_get hs).2.1
  unfold isTracked
  simp only [hs, ← haid]
  constructor
  · intro h
    cases hl : lookup (aidOf s o) s.tracker with
    | none => simp [hl] at h
    | some t => rw [hT.trkUniq _ t o hl ho rfl]
  · intro h
    simp [h, ho]

theorem tracker_cases {s : State} (hT : TabOK s) {o : Nat} (ho : isAlive s o = true) :
    lookup (aidOf s o) s.tracker = none ∨ lookup (aidOf s o) s.tracker = some o := by
  cases hl : lookup (aidOf s o) s.tracker with
  | none => exact Or.inl rfl
  | some t => exact Or.inr (by rw [hT.trkUniq _ t o hl ho rfl])

theorem owner_locked_of_ro {s : State} {m} (hI : Inv s m F) {b : Nat} (hba : isAlive s b = true)
    (hbo : origOf s b = true) (hbb : baseOf s b = none) (hwb : wOf s b = false) :
    0 < cget s.counter (aidOf s b) := by
  rcases tracker_cases hI.toTabOK hba with h | h
  · have := (hI.obj hba).rwFree hbo h (Or.inr hbb)
    rw [hwb] at this; cases this
  · cases hc : cget s.counter (aidOf s b) with
    | succ n => omega
    | zero =>
      obtain ⟨_, b', hb', _⟩ := (hI.obj hba).rwWait hbo h hc
      rw [hbb] at hb'; cases hb'

end MG.Lock
