import MG.Proofs.Lemmas.LockOps
/-! `step` of `MG/Core/Lock.lean` characterised event by event, and every event preserves the global invariant (C08). -/
namespace MG.Lock

/-- the global invariant: the table invariant with the live holds as expected counts, and every array that a
live hold refers to in range -/
structure GInv (s : State) : Prop where
  inv : Inv s (cntH s.holds) F
  bound : ∀ x, 0 < cntH s.holds x → x < s.arrs.length

def push (s : State) (n : Arr) : State := { s with arrs := s.arrs ++ [n] }

theorem get_push_old (s : State) (n : Arr) {x : Nat} (h : x < s.arrs.length) :
    (push s n).arrs[x]? = s.arrs[x]? := List.getElem?_append_left h

theorem get_push_new (s : State) (n : Arr) : (push s n).arrs[s.arrs.length]? = some n := by simp [push]

theorem alive_push_cases {s : State} {n : Arr} {x : Nat} (h : isAlive (push s n) x = true) :
    isAlive s x = true ∨ x = s.arrs.length := by
  have hlt : x < s.arrs.length + 1 := by simpa [push] using isAlive_lt h
  rcases Nat.lt_or_ge x s.arrs.length with l | l
  · exact Or.inl ((acc_of_get (get_push_old s n l)).alive ▸ h)
  · exact Or.inr (by omega)

theorem acc_push_old (s : State) (n : Arr) {x : Nat} (h : isAlive s x = true) : SameAt s (push s n) x :=
  acc_of_get (get_push_old s n (isAlive_lt h))

theorem aidInUse_false {s : State} {aid : Nat} (h : aidInUse s aid = false) :
    ∀ x, isAlive s x = true → aidOf s x ≠ aid := by
  intro x hx e
  obtain ⟨a, hs, ha⟩ := arr_of_alive hx
  have := List.any_eq_false.mp h a (List.mem_of_getElem? hs)
  rw [ha, ← e, (acc_get hs).2.1] at this
  simp at this

theorem aidClean_facts {s : State} {aid : Nat} (h : aidClean s aid = true) :
    cget s.counter aid = 0 ∧ lookup aid s.tracker = none ∧ ∀ k, aid ∉ wget s.waiting k := by
  unfold aidClean at h
  simp only [Bool.and_eq_true, Option.isNone_iff_eq_none, List.all_eq_true, Bool.not_eq_eq_eq_not,
    Bool.not_true] at h
  obtain ⟨⟨⟨h1, h2⟩, _⟩, h4⟩ := h
  refine ⟨by simp [cget, h1], h2, ?_⟩
  intro k hk
  obtain ⟨p, hp, hv⟩ := mem_wget_exists hk
  have := h4 p hp
  simp [hv] at this

def killf : Arr → Arr := fun a => { a with alive := false }

theorem acc_kill (s : State) (o x : Nat) :
    aidOf (modArr s o killf) x = aidOf s x ∧ baseOf (modArr s o killf) x = baseOf s x ∧
    origOf (modArr s o killf) x = origOf s x ∧
    isAlive (modArr s o killf) x = (if x = o then false else isAlive s x) := by
  unfold aidOf baseOf origOf isAlive
  rw [get_modArr]
  by_cases h : x = o
  · subst h
    cases s.arrs[x]? <;> simp [killf]
  · simp [h]

theorem hasAliveView_false {s : State} {o : Nat} (h : hasAliveView s o = false) :
    ∀ x, isAlive s x = true → baseOf s x ≠ some o := by
  intro x hx e
  obtain ⟨a, hs, ha⟩ := arr_of_alive hx
  have := List.any_eq_false.mp h a (List.mem_of_getElem? hs)
  rw [ha, ← e, (acc_get hs).2.2.1] at this
  simp at this

theorem step_newArr {s s' : State} {aid : Nat} {base : Option Nat} {w orig : Bool} :
    step s (.newArr aid base w orig) = some s' ↔
      (aidInUse s aid = false ∧
        (match base with
         | none => w = orig
         | some b => isAlive s b = true ∧ baseOf s b = none) ∧ (orig = true ∨ w = false)) ∧
      s' = push s ⟨aid, base, w, true, orig, false⟩ := by
  simp only [step, Option.ite_none_right_eq_some, Option.some.injEq, Bool.and_eq_true, Bool.not_eq_eq_eq_not,
    Bool.not_true, Bool.or_eq_true, eq_comm (a := s'), push, and_assoc]
  cases base with
  | none => simp only [beq_iff_eq]
  | some b =>
    simp only [Bool.and_eq_true, isAlive, baseOf, and_assoc]
    cases s.arrs[b]? with
    | none => simp only [Bool.false_eq_true, false_and]
    | some ba => simp only [Option.isNone_iff_eq_none]

theorem step_opCreated {s s' : State} {ins : List Nat} :
    step s (.opCreated ins) = some s' ↔ ins.all (isAlive s) = true ∧
      s' = { lockAll (uniqueArrsAndBases s ins) s with
             holds := (lockAll (uniqueArrsAndBases s ins) s).holds ++ [uniqueArrsAndBases s ins] } := by
  simp only [step, Option.ite_none_right_eq_some, Option.some.injEq, eq_comm (a := s')]

theorem step_opExtend {s s' : State} {k : Nat} {outs : List Nat} {forced : Option Nat} :
    step s (.opExtend k outs forced) = some s' ↔ ∃ h, s.holds[k]? = some h ∧
      (outs ++ forced.toList).all (isAlive s) = true ∧
      s' = { lockForced (lockAll outs s) forced with
             holds := (lockForced (lockAll outs s) forced).holds.set k (h ++ (outs ++ forced.toList)) } := by
  simp only [step]
  cases s.holds[k]? with
  | none => simp only [reduceCtorEq, false_and, exists_false]
  | some h => simp only [Option.ite_none_right_eq_some, Option.some.injEq, eq_comm (a := s'), exists_eq_left']

theorem step_opFinalized {s s' : State} {k : Nat} :
    step s (.opFinalized k) = some s' ↔ ∃ h, s.holds[k]? = some h ∧
      s' = releaseOnOp h { s with holds := s.holds.eraseIdx k } := by
  simp only [step]
  cases s.holds[k]? with
  | none => simp only [reduceCtorEq, false_and, exists_false]
  | some h => simp only [Option.some.injEq, eq_comm (a := s'), exists_eq_left']

theorem step_arrayDied {s s' : State} {o : Nat} :
    step s (.arrayDied o) = some s' ↔
      (isAlive s o = true ∧ hasAliveView s o = false) ∧ s' = modArr s o killf := by
  simp only [step, Option.ite_none_right_eq_some, Option.some.injEq, Bool.and_eq_true, Bool.not_eq_eq_eq_not,
    Bool.not_true, eq_comm (a := s')]
  rfl

theorem Hflags_some {s : State} {aid b : Nat} {w orig : Bool} (h : Hflags s (.newArr aid (some b) w orig) = true) :
    orig = origOf s b := by
  simp only [Hflags] at h
  unfold origOf
  cases hb : s.arrs[b]? with
  | none => rw [hb] at h; cases h
  | some ba => rw [hb] at h; exact beq_iff_eq.mp h

theorem Hforce_some {s : State} {k o : Nat} {outs : List Nat} :
    Hforce s (.opExtend k outs (some o)) = origOf s o := rfl

theorem Houts_get {s : State} {k : Nat} {h outs : List Nat} {forced : Option Nat}
    (hH : Houts s (.opExtend k outs forced) = true) (hk : s.holds[k]? = some h) : outsOk s h outs = true := by
  simp only [Houts] at hH
  rw [hk] at hH
  exact hH

/-- a new array object (possibly at a re-used, but clean, address) -/
theorem newArr_ginv {s s' : State} (hG : GInv s) {aid : Nat} {base : Option Nat} {w orig : Bool}
    (hs : step s (.newArr aid base w orig) = some s') (hclean : Hfresh s (.newArr aid base w orig) = true)
    (hflags : Hflags s (.newArr aid base w orig) = true) : GInv s' := by
  obtain ⟨⟨hfree, hbase, hro⟩, rfl⟩ := step_newArr.mp hs
  obtain ⟨hI, hB⟩ := hG
  obtain ⟨hc0, ht0, hw0⟩ := aidClean_facts hclean
  have hnew := acc_get (get_push_new s ⟨aid, base, w, true, orig, false⟩)
  simp only at hnew
  obtain ⟨-, nAid, nBase, nOrig, nW, nE⟩ := hnew
  have hold := @acc_push_old s ⟨aid, base, w, true, orig, false⟩
  have hcases := @alive_push_cases s ⟨aid, base, w, true, orig, false⟩
  have hfresh := aidInUse_false hfree
  have hlen : (push s ⟨aid, base, w, true, orig, false⟩).arrs.length = s.arrs.length + 1 := by simp [push]
  have hm0 : cntH s.holds s.arrs.length = 0 := Nat.eq_zero_of_not_pos fun h => Nat.lt_irrefl _ (hB _ h)
  -- `push` leaves the four tables alone (by `rfl`)
  refine ⟨⟨⟨?_, ?_, ?_, ?_, ?_, ?_⟩, fun {x} hx => ?_⟩, fun x hx => Nat.lt_of_lt_of_le (hB x hx) (by omega)⟩
  · intro o1 o2 h1 h2 e
    rcases hcases h1 with a1 | e1 <;> rcases hcases h2 with a2 | e2
    · rw [(hold a1).aid, (hold a2).aid] at e; exact hI.aidInj o1 o2 a1 a2 e
    · rw [(hold a1).aid, e2, nAid] at e; exact absurd e (hfresh o1 a1)
    · rw [(hold a2).aid, e1, nAid] at e; exact absurd e.symm (hfresh o2 a2)
    · rw [e1, e2]
  · intro x b hx hb
    rcases hcases hx with a1 | e1
    · rw [(hold a1).base] at hb
      obtain ⟨r1, r2, r3⟩ := hI.baseOk x b a1 hb
      rw [(hold r1).alive, (hold r1).base, (hold r1).orig, (hold a1).orig]
      exact ⟨r1, r2, r3⟩
    · rw [e1, nBase] at hb
      subst hb
      obtain ⟨r1, r2⟩ := hbase
      rw [(hold r1).alive, (hold r1).base, (hold r1).orig, e1, nOrig]
      exact ⟨r1, r2, (Hflags_some hflags).symm⟩
  · intro i t hl hta
    rcases hcases hta with a1 | e1
    · rw [(hold a1).aid]; exact hI.trkAid i t hl a1
    · exact absurd (hI.trkLt i t hl) (by omega)
  · intro i t x hl hx hxa
    rcases hcases hx with a1 | e1
    · rw [(hold a1).aid] at hxa; exact hI.trkUniq i t x hl a1 hxa
    · rw [e1, nAid] at hxa
      exact nomatch (hxa ▸ ht0).symm.trans hl
  · intro k v x hv hx hxa
    rcases hcases hx with a1 | e1
    · rw [(hold a1).aid] at hxa
      obtain ⟨b, hb1, hb2⟩ := hI.waitOk k v x hv a1 hxa
      exact ⟨b, by rw [(hold a1).base]; exact hb1, by rw [(hold (hI.baseOk x b a1 hb1).1).aid]; exact hb2⟩
    · rw [e1, nAid] at hxa
      exact absurd (hxa ▸ hv) (hw0 k)
  · exact fun i t hl => Nat.lt_of_lt_of_le (hI.trkLt i t hl) (by omega)
  · rcases hcases hx with a1 | e1
    · refine (hI.obj a1).congr (get_push_old s _ (isAlive_lt a1)) rfl rfl (fun _ => rfl) ?_
      intro _ _ b ⟨hb, hmem, hp⟩
      have ab := (hold (hI.baseOk x b a1 hb).1).aid
      exact ⟨(hold a1).base.trans hb, by rw [(hold a1).aid, ab]; exact hmem, by rw [(hold a1).aid, ab]; exact hp⟩
    · subst e1
      rcases Bool.eq_false_or_eq_true orig with horig | horig
      · refine .free (nOrig.trans horig) (by rw [nAid]; exact hc0) hm0 (by rw [nAid]; exact ht0) ?_
        rw [nE, nBase, nW]
        rintro (h | h)
        · cases h
        · rw [h] at hbase; rw [hbase, horig]
      · exact .readonly (nOrig.trans horig)
          (by rw [nAid, nW]; exact ⟨hro.resolve_left (horig ▸ Bool.false_ne_true), hc0, ht0⟩)

theorem die_inv {s : State} {m P} (hI : Inv s m P) {o : Nat} (hnv : ∀ x, isAlive s x = true → baseOf s x ≠ some o) :
    Inv (modArr s o killf) m P := by
  have hA := acc_kill s o
  have halive : ∀ x, isAlive (modArr s o killf) x = true → isAlive s x = true ∧ x ≠ o := by
    intro x hx
    rw [(hA x).2.2.2] at hx
    split at hx
    · cases hx
    · exact ⟨hx, ‹_›⟩
  refine ⟨hI.toTabOK.transfer (Nat.le_of_eq (length_modArr ..).symm) (fun x hx => ?_) (fun _ _ h => Or.inl h)
    (fun _ _ h => Or.inl h), fun {x} hx => ?_⟩
  · obtain ⟨hx', _⟩ := halive x hx
    refine ⟨hx', (hA x).1, (hA x).2.1, (hA x).2.2.1, fun b hb => ?_⟩
    -- the base of a live array is not the one that dies
    rw [(hA b).2.2.2, if_neg fun e : b = o => hnv x hx' (e ▸ hb)]
    exact (hI.baseOk x b hx' hb).1
  · obtain ⟨hx', hxo⟩ := halive x hx
    refine (hI.obj hx').congr (get_modArr_ne _ _ hxo) rfl rfl (fun _ => rfl) fun _ _ b hb => ?_
    simpa only [WaitsFor, (hA _).1, (hA _).2.1, waiting_modArr, counter_modArr] using hb

theorem arrayDied_ginv {s s' : State} (hG : GInv s) {o : Nat} (hs : step s (.arrayDied o) = some s') : GInv s' := by
  obtain ⟨⟨_, hv⟩, rfl⟩ := step_arrayDied.mp hs
  exact ⟨die_inv hG.inv (hasAliveView_false hv), fun x hx => by rw [length_modArr]; exact hG.bound x hx⟩

theorem outsOk_lockOK (s : State) : ∀ (outs refs seen : List Nat), (∀ y, y ∈ refs → y ∈ seen) →
    outsOk s refs outs = true → LockOK s seen outs := by
  intro outs
  induction outs with
  | nil => intros; trivial
  | cons o os ih =>
    intro refs seen hsub h
    unfold outsOk at h
    simp only [Bool.and_eq_true] at h
    obtain ⟨h1, h2⟩ := h
    refine ⟨?_, ih (refs ++ [o]) (o :: seen) (fun y hy => ?_) h2⟩
    · cases hs : s.arrs[o]? with
      | none => simp [hs] at h1
      | some a =>
        obtain ⟨-, -, eb, -, ew, -⟩ := acc_get hs
        rw [eb, ew]
        simp only [hs, Bool.or_eq_true, Option.isNone_iff_eq_none] at h1
        rcases h1 with (h1 | h1) | h1
        · exact Or.inl h1
        · exact Or.inr (Or.inr (Or.inl h1))
        · cases hb : a.base with
          | none => exact Or.inr (Or.inr (Or.inl rfl))
          | some b =>
            rw [hb] at h1
            exact Or.inr (Or.inr (Or.inr ⟨b, rfl, hsub b (List.contains_iff_mem.mp h1)⟩))
    · rcases List.mem_append.mp hy with h | h
      · exact List.mem_cons_of_mem _ (hsub y h)
      · rw [List.mem_singleton.mp h]; exact List.mem_cons_self ..

theorem opCreated_ginv {s s' : State} (hG : GInv s) {ins : List Nat} (hs : step s (.opCreated ins) = some s') :
    GInv s' := by
  obtain ⟨hal, rfl⟩ := step_opCreated.mp hs
  obtain ⟨hOK, hua⟩ := uniq_ok hG.inv.toTabOK ins (List.all_eq_true.mp hal)
  generalize uniqueArrsAndBases s ins = u at *
  have r1 := lockAll_inv (P := F) u s (cntH s.holds) [] hG.inv hua (fun y hy => nomatch hy) hOK
  obtain ⟨r2, r3⟩ := lockAll_frame u s
  -- one equation gives the expected counts and, read for positivity, the range of the refs
  have hcnt : ∀ x, cntH ((lockAll u s).holds ++ [u]) x = cntH s.holds x + u.count x := fun x => by
    rw [r3, cntH_append]
  refine ⟨(r1.congr_holds _).congr_m fun x _ _ => hcnt x, fun x hx => ?_⟩
  show x < (lockAll u s).arrs.length
  rw [r2.len]
  rcases Nat.add_pos_iff_pos_or_pos.mp (Nat.lt_of_lt_of_eq hx (hcnt x)) with h | h
  · exact hG.bound x h
  · exact isAlive_lt (hua x (List.count_pos_iff.mp h))

theorem opFinalized_ginv {s s' : State} (hG : GInv s) {k : Nat} (hs : step s (.opFinalized k) = some s') :
    GInv s' := by
  obtain ⟨h, hk, rfl⟩ := step_opFinalized.mp hs
  have r1 := releaseOnOp_inv h { s with holds := s.holds.eraseIdx k } (cntH (s.holds.eraseIdx k))
    ((hG.inv.congr_holds _).congr_m fun x _ _ => (cntH_eraseIdx s.holds k h x hk).symm)
  obtain ⟨r2, r3⟩ := releaseOnOp_frame h { s with holds := s.holds.eraseIdx k }
  refine ⟨r3 ▸ r1, fun x hx => ?_⟩
  rw [r3] at hx
  rw [r2.len]
  exact hG.bound x (Nat.lt_of_lt_of_le hx (Nat.le.intro (cntH_eraseIdx s.holds k h x hk).symm))

/-- `lock(tensor.data, force_lock=True)`, if there is one -/
theorem lockForced_inv {s : State} {m} (hI : Inv s m F) (forced : Option Nat)
    (hal : ∀ o, forced = some o → isAlive s o = true ∧ origOf s o = true) :
    Inv (lockForced s forced) (fun x => m x + forced.toList.count x) F ∧ Frame s (lockForced s forced) := by
  cases forced with
  | none => exact ⟨hI.congr_m fun x _ _ => by simp, .refl s⟩
  | some o =>
    obtain ⟨hoa, hoo⟩ := hal o rfl
    refine ⟨(lock_inv hI true hoa (fun _ => Or.inr (Or.inr (Or.inl rfl)))
      (fun h => by rw [hoo] at h; cases h)).1.congr_m fun x _ _ => ?_, lock_frame s o true⟩
    show m x + [o].count x = _
    rw [count_cons_eq]
    split <;> simp

theorem opExtend_ginv {s s' : State} (hG : GInv s) {k : Nat} {outs : List Nat} {forced : Option Nat}
    (hs : step s (.opExtend k outs forced) = some s') (hOuts : Houts s (.opExtend k outs forced) = true)
    (hForce : Hforce s (.opExtend k outs forced) = true) : GInv s' := by
  obtain ⟨h, hk, hal, rfl⟩ := step_opExtend.mp hs
  have hal' := List.all_eq_true.mp hal
  have hmem : h ∈ s.holds := List.mem_of_getElem? hk
  have halo : ∀ x ∈ outs, isAlive s x = true := fun x hx => hal' x (List.mem_append_left _ hx)
  -- an array among the refs of a live hold is counted, hence tracked
  have r1 := lockAll_inv (P := F) outs s (cntH s.holds) h hG.inv halo
    (fun y hy hya hyo => ((hG.inv.obj hya).rwLocked hyo (by
      rw [(hG.inv.obj hya).rwCnt hyo]; exact cntH_pos_iff.mpr ⟨h, hmem, hy⟩)).1)
    (outsOk_lockOK s outs h h (fun _ hy => hy) (Houts_get hOuts hk))
  obtain ⟨r2, r3⟩ := lockAll_frame outs s
  obtain ⟨q1, q2, q3⟩ := lockForced_inv r1 forced fun o ho => by
    rw [r2.alive, r2.orig]
    exact ⟨hal' o (List.mem_append_right _ (by simp [ho])), Hforce_some.symm.trans (ho ▸ hForce)⟩
  have hcnt : ∀ x, cntH ((lockForced (lockAll outs s) forced).holds.set k (h ++ (outs ++ forced.toList))) x =
      cntH s.holds x + (outs ++ forced.toList).count x := fun x => by rw [q3, r3, cntH_set _ _ _ _ _ hk]
  refine ⟨(q1.congr_holds _).congr_m fun x _ _ => (hcnt x).trans (by rw [List.count_append, Nat.add_assoc]),
    fun x hx => ?_⟩
  show x < (lockForced (lockAll outs s) forced).arrs.length
  rw [q2.len, r2.len]
  rcases Nat.add_pos_iff_pos_or_pos.mp (Nat.lt_of_lt_of_eq hx (hcnt x)) with h1 | h1
  · exact hG.bound x h1
  · exact isAlive_lt (hal' x (List.count_pos_iff.mp h1))

end MG.Lock
