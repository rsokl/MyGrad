import MG.Proofs.Lemmas.Placeholder
import MG.Proofs.Lemmas.OpStep
import MG.Proofs.Lemmas.WriteRead
/-!
# The stages of `Tensor._in_place_op`, one lemma each

`inPlaceOp` of the engine model is a long sequence: prelude, `DuplicatingGraph`, copy of the base, the guarded call
writing into the copy, `ApplyMask`, `UnView`, mirroring of the base, re-creation of the views.  This file says what each
stage does to a heap, about variables (any heap, any graph, any operands), so that the refinement theorems for the
particular view families (`InPlaceRefine`: no live view; `InPlaceView`: one live view) only have to chain them.
`inPlaceMutate_eq` is the one place where the monadic body of `inPlaceMutate` is taken apart; C10's
`inplace_ignores_explicit_constant` needs nothing else and stands right behind it.  `inPlaceOp_prepared`, at the end,
is the one place where `inPlaceOp` itself is evaluated: down to the guarded call, for any graph, from what the family
at hand derives from its target (`Prepared`).  Core Lean only.
-/

namespace MG.C04V
open MG.Eng

/-- the four fields the view machinery needs of every old tensor -/
structure Same4 (a b : Tens) : Prop where
  data : a.data = b.data
  const : a.const = b.const
  creator : a.creator = b.creator
  vchildren : a.vchildren = b.vchildren

theorem Same4.rfl' (a : Tens) : Same4 a a := ⟨rfl, rfl, rfl, rfl⟩
theorem Same4.trans {a b c : Tens} (h1 : Same4 a b) (h2 : Same4 b c) : Same4 a c :=
  ⟨h1.data.trans h2.data, h1.const.trans h2.const, h1.creator.trans h2.creator, h1.vchildren.trans h2.vchildren⟩

end MG.C04V

namespace MG.C04R
open MG.Eng MG.ND MG.C13 MG.C04V

/-- what `Tensor._op` does once the forward pass has written `out`, written out: the inputs' gradients are dropped, the op
and the result tensor recorded; the heap and the id of the result -/
def outCore (h : Heap) (kind : Kind) (users vars : List Nat) (out : Arr)
    (wm : Option (Shape × List Bool) := none) : Heap × Nat :=
  let h := users.foldl (fun h v =>
    let tv := h.t v
    let h := if tv.base.isSome ∧ tv.creator.isNone then h.modT v ({ · with base := none }) else h
    h.modT v ({ · with grad := none, viewGrad := none })) h
  let c : Bool := !(vars.any fun v => !(h.t v).const)
  let (h, f) := h.fresh
  let h := h.setOp f { kind := kind, vars := vars, whereMask := wm }
  let h := vars.foldl (fun h v => h.modT v fun t => { t with ops := f :: t.ops }) h
  let (h, o) := h.fresh
  (h.setT o { data := out, const := c, creator := some f }, o)

/-- `outCore` is the recording half of `Tensor._op` (`recordOp`) for a result that is not a view of an input -/
theorem recordOp_none (h : Heap) (kind : Kind) (users vars : List Nat) (out : Arr) (wm : Option (Shape × List Bool)) :
    recordOp h kind vars users (!(vars.any fun v => !((prepInputs h users none).1.t v).const)) none wm out none =
      outCore h kind users vars out wm := rfl

def outRes (h : Heap) (kind : Kind) (users vars : List Nat) (out : Arr) (vals : List Int)
    (wm : Option (Shape × List Bool) := none) : Heap × Nat :=
  outCore (h.write out vals) kind users vars out wm

/-- `h'` has the buffers, counter, read-only set and op table of `h`, and every tensor keeps `Same4` -/
structure SameShape (h h' : Heap) : Prop where
  bufs : h'.bufs = h.bufs
  next : h'.next = h.next
  ro : h'.ro = h.ro
  ops : h'.ops = h.ops
  tens : ∀ t, Same4 (h'.t t) (h.t t)

theorem SameShape.refl (h : Heap) : SameShape h h := ⟨rfl, rfl, rfl, rfl, fun _ => Same4.rfl' _⟩
theorem SameShape.trans {a b c : Heap} (h1 : SameShape a b) (h2 : SameShape b c) : SameShape a c :=
  ⟨h2.bufs.trans h1.bufs, h2.next.trans h1.next, h2.ro.trans h1.ro, h2.ops.trans h1.ops,
   fun t => (h2.tens t).trans (h1.tens t)⟩

theorem sameShape_modT (h : Heap) (i : Nat) (f : Tens → Tens) (hf : ∀ x, Same4 (f x) x) : SameShape h (h.modT i f) :=
  ⟨rfl, rfl, rfl, rfl, fun t => t_modT_rel (R := fun a b => Same4 b a) h i t f (Same4.rfl' _) (hf _)⟩

/-- the stale-base fix-up and gradient nulling of the user tensors (`Tensor._op`) -/
theorem sameShape_prep (users : List Nat) (h : Heap) :
    SameShape h (users.foldl (fun h v =>
      let tv := h.t v
      let h := if tv.base.isSome ∧ tv.creator.isNone then h.modT v ({ · with base := none }) else h
      h.modT v ({ · with grad := none, viewGrad := none })) h) := by
  refine List.foldlRecOn users _ (SameShape.refl h) fun h s c _ => s.trans ?_
  simp only
  split
  · exact (sameShape_modT h c ({ · with base := none }) fun _ => ⟨rfl, rfl, rfl, rfl⟩).trans
      (sameShape_modT _ c _ fun _ => ⟨rfl, rfl, rfl, rfl⟩)
  · exact sameShape_modT h c _ fun _ => ⟨rfl, rfl, rfl, rfl⟩

/-- `R` is what recording the op `⟨kind, vars, wm⟩` with result array `out` makes of `h`: the op gets the next id and
the result tensor the one after; the result is a fresh record around `out` whose flag is inferred from the variables;
no buffer changes; every other tensor keeps its array, flag, creator and view children (its gradient is dropped, a
stale base link cut, the op added to its consumers); no other op changes. -/
structure Recorded (h : Heap) (kind : Kind) (vars : List Nat) (out : Arr) (wm : Option (Shape × List Bool))
    (R : Heap × Nat) : Prop where
  id : R.2 = h.next + 1
  next : R.1.next = h.next + 2
  bufs : R.1.bufs = h.bufs
  ro : R.1.ro = h.ro
  result : R.1.t (h.next + 1) = { data := out, const := !(vars.any fun v => !(h.t v).const), creator := some h.next }
  others : ∀ t, t ≠ h.next + 1 → Same4 (R.1.t t) (h.t t)
  op : ∀ g, R.1.op g = if g = h.next then { kind := kind, vars := vars, whereMask := wm } else h.op g

theorem outCore_spec (h : Heap) (kind : Kind) (users vars : List Nat) (out : Arr) (wm : Option (Shape × List Bool)) :
    Recorded h kind vars out wm (outCore h kind users vars out wm) := by
  let prep : Heap → Nat → Heap := fun h v =>
    let tv := h.t v
    let h := if tv.base.isSome ∧ tv.creator.isNone then h.modT v ({ · with base := none }) else h
    h.modT v ({ · with grad := none, viewGrad := none })
  let h2 := users.foldl prep h
  let h3 := (h2.fresh.1).setOp h2.next { kind := kind, vars := vars, whereMask := wm }
  let reg : Heap → Nat → Heap := fun h v => h.modT v fun t => { t with ops := h2.next :: t.ops }
  let h4 := vars.foldl reg h3
  have P : SameShape h h2 := sameShape_prep users h
  have Q : SameShape h3 h4 := List.foldlRecOn vars reg (SameShape.refl h3) fun h s c _ =>
    s.trans (sameShape_modT h c _ fun _ => ⟨rfl, rfl, rfl, rfl⟩)
  obtain ⟨p1, p2, p3, p4, p5⟩ := P
  obtain ⟨q1, q2, q3, q4, q5⟩ := Q
  have e : outCore h kind users vars out wm =
      ((h4.fresh.1).setT h4.next { data := out, const := !(vars.any fun v => !(h2.t v).const), creator := some h2.next },
        h4.next) := rfl
  have n4 : h4.next = h.next + 1 := by rw [q2]; show h2.next + 1 = _; rw [p2]
  have hc : (fun v => !(h2.t v).const) = fun v => !(h.t v).const := funext fun v => by rw [(p5 v).const]
  rw [e]
  refine ⟨n4, ?_, ?_, ?_, ?_, ?_, ?_⟩
  · show h4.next + 1 = _; rw [n4]
  · show h4.bufs = _; rw [q1]; exact p1
  · show h4.ro = _; rw [q3]; exact p3
  · rw [← n4, t_setT_self, hc, p2]
  · intro t ht
    show Same4 (((h4.fresh.1).setT h4.next _).t t) _
    rw [t_setT_ne _ _ _ _ (by rw [n4]; exact ht)]
    exact (q5 t).trans (p5 t)
  · intro g
    show (lookup g h4.ops).getD default = _
    rw [q4]
    show (lookup g (MG.Eng.insert h2.next _ h2.ops)).getD default = _
    rw [p2, p4]
    by_cases hg : g = h.next
    · subst hg; simp only [lookup_insert_self, if_true]; rfl
    · simp only [lookup_insert_ne _ _ _ _ hg, hg, if_false]; rfl

/-- the tensor operands among the inputs of a call -/
def userIds : List Operand → List Nat
  | [] => []
  | .t i :: r => i :: userIds r
  | .lit _ :: r => userIds r

theorem filterMap_userIds (F : Operand → Option Nat) (hF : ∀ i, F (.t i) = some i) (hL : ∀ v, F (.lit v) = none)
    (inputs : List Operand) : inputs.filterMap F = userIds inputs := by
  induction inputs with
  | nil => rfl
  | cons o r ih => cases o <;> simp [userIds, hF, hL, ih]

theorem wrapOperands_t (h : Heap) (ids : List Nat) : wrapOperands h (ids.map Operand.t) = (h, ids) := by
  induction ids with
  | nil => rfl
  | cons i r ih => simp [wrapOperands, ih]

theorem userIds_t (ids : List Nat) : userIds (ids.map Operand.t) = ids := by
  induction ids with
  | nil => rfl
  | cons i r ih => simp [userIds, ih]

/-- the value an operand denotes -/
def operandVal (h : Heap) : Operand → Val
  | .t i => h.val (h.t i).data
  | .lit v => v

/-- an operand the call can take: a tensor that exists and whose array lives in an existing buffer, or a
well-formed literal -/
def WFop (h : Heap) : Operand → Prop
  | .t i => i < h.next ∧ (h.t i).data.buf < h.next
  | .lit v => v.2.length = size v.1

theorem WFop_ext {h h' : Heap} (e : Ext h h') (o : Operand) (hw : WFop h o) : WFop h' o := by
  cases o with
  | t i =>
    refine ⟨Nat.lt_of_lt_of_le hw.1 e.next, ?_⟩
    rw [e.tens i hw.1]; exact Nat.lt_of_lt_of_le hw.2 e.next
  | lit v => exact hw

theorem operandVal_ext {h h' : Heap} (e : Ext h h') (o : Operand) (hw : WFop h o) :
    operandVal h' o = operandVal h o := by
  cases o with
  | t i =>
    simp only [operandVal]
    rw [e.tens i hw.1]
    exact val_congr h h' _ (e.buf _ hw.2)
  | lit v => rfl

theorem val_mkLeaf (h : Heap) (v : Val) (c : Bool) (hv : v.2.length = size v.1) :
    (mkLeaf h v c).1.val ((mkLeaf h v c).1.t (h.next + 1)).data = v := by
  rw [mkLeaf_t, val_congr (h.newArr v).1 (mkLeaf h v c).1 _ rfl]
  simp only [Heap.val]
  rw [read_newArr h v hv]
  rfl

/-- after wrapping, the variables of the call read the values the operands denote -/
theorem wrap_vals (inputs : List Operand) : ∀ h : Heap, (∀ o ∈ inputs, WFop h o) →
    (wrapOperands h inputs).2.map (fun i => (wrapOperands h inputs).1.val ((wrapOperands h inputs).1.t i).data)
      = inputs.map (operandVal h) := by
  induction inputs with
  | nil => intro h _; rfl
  | cons o r ih =>
    intro h hwf
    have hwr : ∀ o ∈ r, WFop h o := fun o ho => hwf o (List.mem_cons_of_mem _ ho)
    cases o with
    | t i =>
      obtain ⟨i1, i2⟩ := hwf (.t i) (List.mem_cons_self ..)
      have e := wrap_ext r h
      simp only [wrapOperands, List.map_cons, operandVal]
      rw [ih h hwr, e.tens i i1, val_congr h _ _ (e.buf _ i2)]
    | lit v =>
      have e1 := ext_mkLeaf h v true
      have e := wrap_ext r (mkLeaf h v true).1
      rw [wrapOperands_lit]
      simp only [List.map_cons, operandVal]
      rw [ih _ fun o ho => WFop_ext e1 o (hwr o ho), e.tens _ (Nat.lt_succ_self (h.next + 1)),
        val_congr _ _ _ (e.buf _ (by rw [mkLeaf_t]; exact Nat.lt_succ_of_lt (Nat.lt_succ_self h.next))),
        val_mkLeaf h v true (hwf (.lit v) (List.mem_cons_self ..))]
      congr 1
      exact List.map_congr_left fun o ho => operandVal_ext e1 o (hwr o ho)

/-- re-naming the tensor operands of a call -/
def renameOp (ρ : Nat → Nat) : Operand → Operand
  | .t i => .t (ρ i)
  | o => o

/-- operands as the guarded call sees them: `x` replaced by its placeholder -/
def phMap (x p : Nat) : Operand → Operand
  | .t i => .t (swapVar x p i)
  | o => o

/-- **the guarded call sees the operands' values.**  `C` is the heap the kernel runs on and `ρ` sends each tensor
operand to the tensor that stands for it there (itself, or its placeholder).  If that tensor holds the operand's array
and every old buffer is unchanged, the re-named operands are well-formed in `C` and denote the same values. -/
theorem rename_vals (h C : Heap) (ρ : Nat → Nat) (inputs : List Operand) (hwf : ∀ o ∈ inputs, WFop h o)
    (hn : h.next ≤ C.next) (hρ : ∀ i, i < h.next → ρ i < C.next ∧ (C.t (ρ i)).data = (h.t i).data)
    (hbuf : ∀ b, b < h.next → C.buf b = h.buf b) :
    (∀ o ∈ inputs.map (renameOp ρ), WFop C o) ∧
    (inputs.map (renameOp ρ)).map (operandVal C) = inputs.map (operandVal h) := by
  refine ⟨fun o ho => ?_, ?_⟩
  · obtain ⟨o0, ho0, rfl⟩ := List.mem_map.mp ho
    cases o0 with
    | lit v => exact hwf _ ho0
    | t i =>
      obtain ⟨i1, i2⟩ := hwf _ ho0
      exact ⟨(hρ i i1).1, by rw [(hρ i i1).2]; omega⟩
  · rw [List.map_map]
    apply List.map_congr_left
    intro o ho
    cases o with
    | lit v => rfl
    | t i =>
      obtain ⟨i1, i2⟩ := hwf _ ho
      show C.val (C.t (ρ i)).data = h.val (h.t i).data
      rw [(hρ i i1).2, val_congr h C _ (hbuf _ i2)]

/-- `opStepOut` without an explicit flag is the NumPy-level statement `outWrite` on the operands' values followed by
the recording of the op -/
theorem opStepOut_eq (h : Heap) (kind : Kind) (inputs : List Operand) (out : Arr) (wm : Option (Shape × List Bool)) :
    opStepOut h kind inputs none wm out =
      match outWrite kind ((wrapOperands h inputs).2.map fun i =>
            (wrapOperands h inputs).1.val ((wrapOperands h inputs).1.t i).data) out.d.shape
            ((wrapOperands h inputs).1.read out) wm with
      | .error e => .error e
      | .ok vals => .ok (outRes (wrapOperands h inputs).1 kind (userIds inputs) (wrapOperands h inputs).2 out vals wm) := by
  unfold opStepOut
  simp only
  split
  · rename_i e he; rw [he]
  · rename_i vals he
    rw [he, filterMap_userIds _ (fun i => rfl) (fun v => rfl)]
    rfl

/-- heap and array after `mutant_base = base.copy()` (C-contiguous base) -/
def copyH (H : Heap) (x : Nat) : Heap × Arr := H.newArr (H.val (H.t x).data)

/-- the copy `C` of `x`'s array in `H`: a C-contiguous array over the new buffer `H.next`, which holds `x`'s values;
no tensor and no other buffer is touched -/
structure CopyOf (H : Heap) (x : Nat) (C : Heap × Arr) : Prop where
  arr : C.2 = ⟨H.next, Desc.contig 0 (H.t x).data.d.shape⟩
  next : C.1.next = H.next + 1
  t : ∀ t, C.1.t t = H.t t
  buf_ne : ∀ b, b ≠ H.next → C.1.buf b = H.buf b
  buf : C.1.buf H.next = H.read (H.t x).data

theorem copyH_spec (H : Heap) (x : Nat) : CopyOf H x (copyH H x) :=
  ⟨rfl, rfl, fun _ => rfl, fun b hb => newArr_frames H _ b hb, (buf_newArr H _ _).trans (if_pos rfl)⟩

theorem copyH_op (H : Heap) (x f : Nat) : (copyH H x).1.op f = H.op f := rfl

theorem copyArrK_contig (H : Heap) (x : Nat) (hcc : (H.t x).data.d.isCContig = true) :
    H.copyArrK (H.t x).data = copyH H x := by
  simp [Heap.copyArrK, hcc, copyH]

/-- `mirror_tensor(x, r)` followed by the death of the temporary `r`: the public tensor `x` takes over `r`'s state -/
abbrev adopt (h : Heap) (x r : Nat) : Heap :=
  { mirror h x r with tens := (mirror h x r).tens.filter fun q => q.1 ≠ r }

/-- … and nothing else moved -/
theorem t_adopt (h : Heap) (x r t : Nat) (ht : t ≠ r) :
    (adopt h x r).t t = if t = x then h.t r else h.t t := by
  rw [t_filter_ne _ _ _ ht]
  by_cases e : t = x
  · subst e; simp [mirror]
  · simp only [mirror, e, if_false]; exact t_setT_ne _ _ _ _ e

/-- the prelude only discards the target's gradient, unless the target is a view that lost its creator (a stale base
link is cut) or that its base no longer lists (it is disconnected) -/
theorem prelude_eq (h : Heap) (live : List Nat) (x : Nat) (hstale : ¬ ((h.t x).base.isSome ∧ (h.t x).creator.isNone))
    (hreach : ∀ b, (h.t x).base = some b → reachesViaViews (nullGrad h x) live (nullGrad h x).fuel b x = true) :
    inPlacePrelude h live x = nullGrad h x := by
  unfold inPlacePrelude
  have e : (h.modT x fun t => ({ t with grad := none, viewGrad := none, base := (if t.base.isSome ∧ t.creator.isNone then none else t.base) } : Tens)) =
      nullGrad h x := by
    simp only [nullGrad, Heap.modT, if_neg hstale]
  simp only [e]
  cases hb : ((nullGrad h x).t x).base with
  | none => rfl
  | some b => simp only [hreach b (by rw [← hb, nullGrad_base]), if_true]

/-- what `_in_place_op` does once the guarded call has produced the mutant `pmv` and its flag has been set:
`ApplyMask` under a `where=` mask, `UnView` when the target is a view, mirroring of the base, re-creation of the views -/
def mutateFinish (h : Heap) (g : DupGraph) (self : Nat) (selfIsBase : Bool) (wm : Option (Shape × List Bool))
    (chain : List ViewFn) (mutArr : Arr) (pmv : Nat) : Except (Err × Heap) Heap :=
  let masked : Except (Err × Heap) (Heap × Nat) := match wm with
    | none => .ok (h, pmv)
    | some m => match g.node? self with
      | none => .error (.other, h)
      | some ns => withHeap h (opStep h (.applyMask m) [.t pmv, .t ns.placeholder])
  match masked with
  | .error e => .error e
  | .ok (h, pmv) =>
    let r := if selfIsBase then (h, pmv) else opStepUnview h g.base.placeholder pmv chain mutArr
    let h := mirror r.1 g.base.tensor r.2
    let h : Heap := { h with tens := h.tens.filter fun p => p.1 ≠ r.2 }
    recreateViews h (g.dfs h)

theorem inPlaceMutate_eq (h : Heap) (g : DupGraph) (self : Nat) (selfIsBase : Bool) (kind : Kind)
    (inputs : List Operand) (constant : Option Bool) (wm : Option (Shape × List Bool)) :
    inPlaceMutate h g self selfIsBase kind inputs constant wm =
      let C := h.copyArrK (h.t g.base.tensor).data
      if (g.node? self).isNone then .error (.other, C.1)
      else match inPlaceTarget C.1 g self C.2 with
        | .error e => .error (e, C.1)
        | .ok (target, chain) =>
          if chain.any ViewFn.isBroadcastTo || C.1.ro.contains (h.t g.base.tensor).data.buf then
            .error (.valueError, g.restore C.1)
          else match opStepOut C.1 kind (inputs.map (renameOp g.placeholderIfExists)) constant wm target with
            | .error e => .error (e, g.restore C.1)
            | .ok (h2, pmv) =>
              mutateFinish (h2.modT pmv ({ · with const := (h.t g.base.tensor).const })) g self selfIsBase wm chain C.2 pmv := by
  simp only [inPlaceMutate]
  generalize h.copyArrK (h.t g.base.tensor).data = C
  cases hN : g.node? self with
  | none => rfl
  | some ns =>
    cases hT : inPlaceTarget C.1 g self C.2 with
    | error e => rfl
    | ok tc =>
      obtain ⟨target, chain⟩ := tc
      simp only [withHeap, bind, Except.bind, Option.isNone_some, Bool.false_eq_true, if_false]
      cases hB : (chain.any ViewFn.isBroadcastTo || C.1.ro.contains (h.t g.base.tensor).data.buf) with
      | true => rfl
      | false =>
        simp only [Bool.false_eq_true, if_false]
        show (match opStepOut C.1 kind (inputs.map (renameOp g.placeholderIfExists)) constant wm target with
          | .error e => _ | .ok r => _) = _
        cases hO : opStepOut C.1 kind (inputs.map (renameOp g.placeholderIfExists)) constant wm target with
        | error e => rfl
        | ok r =>
          obtain ⟨h2, pmv⟩ := r
          simp only [pure, Except.pure]
          cases wm with
          | none => rfl
          | some m =>
            simp only [mutateFinish, hN, withHeap]
            cases opStep (h2.modT pmv ({ · with const := (h.t g.base.tensor).const })) (.applyMask m)
              [.t pmv, .t ns.placeholder] <;> rfl

end MG.C04R

namespace MG.C10F
open MG.Eng MG.ND MG.C04R

/-- `opStepOut` with an explicit `constant=` differs from the inferred call only in the flag stored on the result -/
theorem opStepOut_const (h : Heap) (kind : Kind) (inputs : List Operand) (c : Bool)
    (wm : Option (Shape × List Bool)) (out : Arr) :
    opStepOut h kind inputs (some c) wm out =
      match opStepOut h kind inputs none wm out with
      | .error e => .error e
      | .ok (H, o) => .ok (H.setT o { H.t o with const := c }, o) := by
  unfold opStepOut
  simp only
  split
  · rfl
  · simp only [fresh_snd, t_setT_self, setT_setT]

/-- **inplace_ignores_explicit_constant.**  An explicit `constant=` passed along with an in-place update
(`ufunc(…, out=x, constant=c)`) has no effect whatsoever: whatever the target (a base, a view, a view of a view), the
operands, the mask and the outcome (success or failure), the whole `_in_place_op` leaves exactly the heap the same
call without `constant=` leaves.  In particular the target — and every member of its view family — keeps its own flag
(`placeholder_mutant_view._constant = inplace_target._constant`). -/
theorem inplace_ignores_explicit_constant (h : Heap) (roots : List Nat) (self : Nat) (kind : Kind)
    (inputs : List Operand) (c : Bool) (wm : Option (Shape × List Bool)) :
    inPlaceOp h roots self kind inputs (some c) wm = inPlaceOp h roots self kind inputs none wm := by
  unfold inPlaceOp
  simp only
  congr 1
  funext r
  obtain ⟨H, g⟩ := r
  -- the two computations differ only between the guarded call and the flag overwrite that follows it
  simp only [inPlaceMutate_eq, opStepOut_const]
  split
  · rfl
  · split
    · rfl
    · split
      · rfl
      · rename_i target chain _ _
        cases opStepOut (H.copyArrK (H.t g.base.tensor).data).1 kind (inputs.map (renameOp g.placeholderIfExists))
          none wm target with
        | error e => rfl
        | ok r =>
          obtain ⟨H2, o⟩ := r
          -- the flag just stored on the mutant is overwritten by the target's own
          have e : (H2.setT o { H2.t o with const := c }).modT o ({ · with const := (H.t g.base.tensor).const }) =
              H2.modT o ({ · with const := (H.t g.base.tensor).const }) := by
            simp [Heap.modT, t_setT_self, setT_setT]
          simp only [e]

end MG.C10F

namespace MG.C04R
open MG.Eng MG.ND MG.C13 MG.C04V

/-- `h'` agrees with `h` below `n` on everything the in-place machinery reads later — buffers, and of every tensor
outside `X` its array, flag, creator and view children, of every op its kind and replay flag.  The refinement
theorems obtain their "nothing else changed" clauses by composing the frames of the stages. -/
structure Frame (n : Nat) (X : List Nat) (h h' : Heap) : Prop where
  next : h.next ≤ h'.next
  ro : h'.ro = h.ro
  buf : ∀ b, b < n → h'.buf b = h.buf b
  tens : ∀ t, t < n → t ∉ X → Same4 (h'.t t) (h.t t)
  op : ∀ g, g < n → (h'.op g).kind = (h.op g).kind ∧ (h'.op g).forceConst = (h.op g).forceConst

theorem Frame.trans {n : Nat} {X Y : List Nat} {a b c : Heap} (h1 : Frame n X a b) (h2 : Frame n Y b c) :
    Frame n (X ++ Y) a c where
  next := Nat.le_trans h1.next h2.next
  ro := h2.ro.trans h1.ro
  buf b hb := (h2.buf b hb).trans (h1.buf b hb)
  tens t ht hX := (h2.tens t ht fun m => hX (List.mem_append_right _ m)).trans
    (h1.tens t ht fun m => hX (List.mem_append_left _ m))
  op g hg := ⟨(h2.op g hg).1.trans (h1.op g hg).1, (h2.op g hg).2.trans (h1.op g hg).2⟩

theorem Frame.mono {n m : Nat} {X Y : List Nat} {a b : Heap} (h : Frame n X a b) (hm : m ≤ n) (hX : ∀ t ∈ X, t ∈ Y) :
    Frame m Y a b :=
  ⟨h.next, h.ro, fun b hb => h.buf b (by omega), fun t ht hY => h.tens t (by omega) fun m => hY (hX t m),
   fun g hg => h.op g (by omega)⟩

/-- a tensor update that keeps `Same4`, or that happens at a new id, is invisible to the frame -/
theorem frame_modT (n : Nat) (h : Heap) (i : Nat) (f : Tens → Tens) (hf : n ≤ i ∨ ∀ x, Same4 (f x) x) :
    Frame n [] h (h.modT i f) where
  next := Nat.le_refl _
  ro := rfl
  buf _ _ := rfl
  op _ _ := ⟨rfl, rfl⟩
  tens t ht _ := by
    rcases hf with hf | hf
    · rw [t_modT_ne _ _ _ _ (by omega)]; exact Same4.rfl' _
    · exact (sameShape_modT h i f hf).tens t

theorem frame_nullGrad (n : Nat) (h : Heap) (x : Nat) : Frame n [] h (nullGrad h x) :=
  frame_modT n h x _ (.inr fun _ => ⟨rfl, rfl, rfl, rfl⟩)

theorem frame_of_ext {n : Nat} {h h' : Heap} (e : Ext h h') (hn : n ≤ h.next) : Frame n [] h h' where
  next := e.next
  ro := e.ro
  buf b hb := e.buf b (by omega)
  tens t ht _ := by rw [e.tens t (by omega)]; exact Same4.rfl' _
  op g _ := by simp only [Heap.op, e.ops, and_self]

theorem frame_mkPh {n : Nat} (h : Heap) (x : Nat) (bs : Option Nat) (hn : n ≤ h.next) (hx : x ≠ h.next) :
    Frame n [] h (mkPh h x bs) where
  next := by rw [mkPh_next]; omega
  ro := mkPh_ro h x bs
  buf b _ := by simp only [Heap.buf, mkPh_bufs]
  tens t ht _ := by rw [mkPh_t_ne _ _ _ _ (by omega)]; exact Same4.rfl' _
  op g _ := by rw [mkPh_op h x bs hx]; split <;> exact ⟨rfl, rfl⟩

theorem frame_copy {n : Nat} (H : Heap) (x : Nat) (hn : n ≤ H.next) : Frame n [] H (copyH H x).1 where
  next := by rw [(copyH_spec H x).next]; omega
  ro := rfl
  buf b hb := (copyH_spec H x).buf_ne b (by omega)
  tens _ _ _ := Same4.rfl' _
  op _ _ := ⟨rfl, rfl⟩

theorem frame_write {n : Nat} (h : Heap) (a : Arr) (vals : List Int) (ha : n ≤ a.buf) :
    Frame n [] h (h.write a vals) where
  next := Nat.le_refl _
  ro := rfl
  buf b hb := write_frames_buffer h a vals b (by omega)
  tens _ _ _ := Same4.rfl' _
  op _ _ := ⟨rfl, rfl⟩

theorem frame_outCore {n : Nat} (h : Heap) (kind : Kind) (users vars : List Nat) (out : Arr)
    (wm : Option (Shape × List Bool)) (hn : n ≤ h.next) : Frame n [] h (outCore h kind users vars out wm).1 := by
  obtain ⟨_, s2, s3, s4, _, s6, s7⟩ := outCore_spec h kind users vars out wm
  exact ⟨by rw [s2]; omega, s4, fun b _ => by simp only [Heap.buf, s3], fun t ht _ => s6 t (by omega),
    fun g hg => by rw [s7 g, if_neg (by omega)]; exact ⟨rfl, rfl⟩⟩

theorem frame_adopt {n : Nat} (h : Heap) (x r : Nat) (hr : n ≤ r) :
    Frame n [x] h (adopt h x r) where
  next := Nat.le_refl _
  ro := rfl
  buf _ _ := rfl
  op _ _ := ⟨rfl, rfl⟩
  tens t ht hX := by
    rw [t_adopt h x r t (by omega), if_neg fun e => hX (by simp [e])]
    exact Same4.rfl' _

/-- **what the guarded call leaves.**  `H` is the heap after the duplication and `x` its base tensor; the operands
(already re-named to placeholders) were wrapped on top of the copy of `x`'s data (buffer `H.next`) giving `W`, the
kernel's `vals` were written through the window `dt` of that copy, the op was recorded and the mutant `r`'s flag set to
`c`, giving `h5`. -/
structure Guarded (H : Heap) (x : Nat) (W : Heap × List Nat) (kind : Kind) (dt : Desc) (vals : List Int)
    (wm : Option (Shape × List Bool)) (c : Bool) (h5 : Heap) (r : Nat) : Prop where
  /-- the op gets the first id after the wrapped literals, the mutant the next -/
  id : r = W.1.next + 1
  next : h5.next = W.1.next + 2
  /-- wrapping sits on top of the copy -/
  above : H.next + 1 ≤ W.1.next
  /-- the mutant is a fresh record around the window -/
  mutant : h5.t r = { data := ⟨H.next, dt⟩, const := c, creator := some W.1.next }
  /-- one op was recorded, over the wrapped operands -/
  op : ∀ g, h5.op g = if g = W.1.next then { kind := kind, vars := W.2, whereMask := wm } else H.op g
  /-- every other tensor, the wrapped literals included -/
  tens : ∀ t, t ≠ r → Same4 (h5.t t) (W.1.t t)
  /-- nothing that existed before the copy has moved -/
  frame : Frame H.next [] H h5
  /-- recording touches no buffer -/
  bufs : h5.bufs = (W.1.write ⟨H.next, dt⟩ vals).bufs
  /-- the copy holds `x`'s old values with the window overwritten -/
  copy : h5.buf H.next = scatter (H.read (H.t x).data) dt.positions vals

theorem guarded_spec (H : Heap) (x : Nat) (inputs : List Operand) (kind : Kind) (dt : Desc) (vals : List Int)
    (wm : Option (Shape × List Bool)) (c : Bool) :
    let W := wrapOperands (copyH H x).1 inputs
    let R := outRes W.1 kind (userIds inputs) W.2 ⟨H.next, dt⟩ vals wm
    Guarded H x W kind dt vals wm c (R.1.modT R.2 ({ · with const := c })) R.2 := by
  intro W R
  obtain ⟨_, cN, _, _, cR⟩ := copyH_spec H x
  have eW : Ext (copyH H x).1 W.1 := wrap_ext inputs _
  have S := outCore_spec (W.1.write ⟨H.next, dt⟩ vals) kind (userIds inputs) W.2 ⟨H.next, dt⟩ wm
  have s1 : R.2 = W.1.next + 1 := S.id
  have s5 : R.1.t (W.1.next + 1) = { data := ⟨H.next, dt⟩, const := _, creator := some W.1.next } := S.result
  have hWn : H.next + 1 ≤ W.1.next := cN ▸ eW.next
  have hb : (R.1.modT R.2 ({ · with const := c })).bufs = (W.1.write ⟨H.next, dt⟩ vals).bufs := S.bufs
  refine ⟨s1, S.next, hWn, ?_, fun g => ?_, fun t ht => ?_, ?_, hb, ?_⟩
  · rw [t_modT_self, s1, s5]
  · refine (S.op g).trans ?_
    show (if g = W.1.next then _ else W.1.op g) = _
    simp only [Heap.op, eW.ops]; rfl
  · rw [t_modT_ne _ _ _ _ ht]
    exact S.others t (s1 ▸ ht)
  · exact (((frame_copy H x (Nat.le_refl _)).trans (frame_of_ext eW (by rw [cN]; omega))).trans
      (frame_write W.1 ⟨H.next, dt⟩ vals (Nat.le_refl _))).trans
      ((frame_outCore (W.1.write ⟨H.next, dt⟩ vals) kind (userIds inputs) W.2 ⟨H.next, dt⟩ wm
        (show H.next ≤ W.1.next by omega)).trans
        (frame_modT H.next R.1 R.2 ({ · with const := c }) (.inl (by rw [s1]; omega))))
  · have e := buf_write W.1 ⟨H.next, dt⟩ vals
    rw [show W.1.buf (⟨H.next, dt⟩ : Arr).buf = _ from eW.buf H.next (by rw [cN]; omega), cR] at e
    simp only [Heap.buf, hb]
    exact e

/-- the target of an update on the base itself is the whole copy -/
theorem inPlaceTarget_base (h : Heap) (g : DupGraph) (x : Nat) (a : Arr) (n : Node) (hn : g.node? x = some n)
    (hp : n.parent = none) : inPlaceTarget h g x a = .ok (a, []) := by
  unfold inPlaceTarget DupGraph.pathToBase
  show List.foldlM _ _ ((DupGraph.pathToBase.go g (g.nodes.length + 1) x).reverse.drop 1) = _
  unfold DupGraph.pathToBase.go
  simp [hn, hp, pure, Except.pure]

theorem dfs_go_none (g : DupGraph) (h : Heap) (c : Nat) (hc : g.node? c = none) (fuel : Nat) :
    DupGraph.dfs.go g h fuel c = [] := by
  cases fuel with
  | zero => rfl
  | succ n => unfold DupGraph.dfs.go; simp [hc]

/-- `Tensor._op` for a view op that NumPy serves as a view, on a tensor that owns its memory, written out -/
def viewRes (h : Heap) (vf : ViewFn) (b : Nat) (c : Bool) (fc : Option Bool) (outArr : Arr) : Heap × Nat :=
  let h1 := (h.fresh.1.setOp h.next (mkOpRec (.view vf) [b] none fc)).modT b fun t => { t with ops := h.next :: t.ops }
  let h2 := h1.fresh.1.setT (h.next + 1) { data := outArr, const := c, creator := some h.next, base := some b }
  (h2.modT b fun t => { t with vchildren := t.vchildren ++ [h.next + 1] }, h.next + 1)

theorem opStep_view (h : Heap) (vf : ViewFn) (b : Nat) (fc : Option Bool) (d' : Desc)
    (happ : vf.apply (h.t b).data.d = .ok (d', true)) (hb : (h.t b).base = none) :
    opStep h (.view vf) [.t b] fc =
      .ok (viewRes h vf b (resultConst fc h [b]) fc ⟨(h.t b).data.buf, d'⟩) := by
  have hprep : prepInputs h [b] (some b) = (h, some b) := by
    unfold prepInputs
    simp [hb]
  unfold opStep
  simp only [wrapOperands, List.filterMap_cons, List.filterMap_nil, forwardOp, List.getD_cons_zero, happ]
  unfold recordOp
  rw [hprep]
  simp only [Option.isSome_some, if_true, List.foldl_cons, List.foldl_nil, attachResult, fresh_snd, next_modT,
    Heap.setOp, next_fresh]
  rfl

/-- `Tensor._op(ApplyMask, mutant, placeholder, mask=…)` hands back the mutant's own array -/
theorem opStep_applyMask (h : Heap) (a p : Nat) (m : Shape × List Bool) :
    opStep h (.applyMask m) [.t a, .t p] = .ok (outCore h (.applyMask m) [a, p] [a, p] (h.t a).data) := by
  -- the flag is inferred before the inputs' gradients are dropped in `_op`, after it in `outCore`
  have hc : resultConst none h [a, p] = !([a, p].any fun v => !((prepInputs h [a, p] none).1.t v).const) := by
    have hk : ∀ v, ((prepInputs h [a, p] none).1.t v).const = (h.t v).const :=
      (prepInputs_step (·.const) (fun _ _ _ _ _ => rfl) h [a, p] none).t
    simp only [resultConst, hk]
  unfold opStep
  simp only [wrapOperands, List.filterMap_cons, List.filterMap_nil, forwardOp, List.getD_cons_zero]
  rw [hc, recordOp_none]

theorem recreate_single (h : Heap) (x p : Nat) : recreateViews h [⟨x, p, none⟩] = .ok h := by
  simp only [recreateViews, List.foldlM_cons, List.foldlM_nil]
  rfl

/-- **re-creating the one view `v` of `b`** (`_replay_op`, mirroring into the public object, bookkeeping of the view
children): `v` is a window of `b`'s own — new — memory and a view of `b` again; `b` keeps array, flag and ownership; no
buffer is touched and nothing else moves. -/
theorem recreate_view (h : Heap) (b v pb pv : Nat) (vf : ViewFn) (fc : Option Bool) (dv : Desc)
    (hne : v ≠ b) (hbl : b < h.next) (hvl : v < h.next)
    (hrep : replayFn h v = some (vf, fc)) (happ : vf.apply (h.t b).data.d = .ok (dv, true))
    (hb : (h.t b).base = none) :
    ∃ F, recreateViews h [⟨b, pb, none⟩, ⟨v, pv, some b⟩] = .ok F ∧
      F.t v = { data := ⟨(h.t b).data.buf, dv⟩, const := resultConst fc h [b], creator := some h.next, base := some b } ∧
      (F.t b).data = (h.t b).data ∧ (F.t b).const = (h.t b).const ∧ (F.t b).base = none ∧
      F.bufs = h.bufs ∧ Frame h.next [b, v] h F := by
  have hvo : v ≠ h.next + 1 := Nat.ne_of_lt (Nat.lt_succ_of_lt hvl)
  have hbo : b ≠ h.next + 1 := Nat.ne_of_lt (Nat.lt_succ_of_lt hbl)
  -- the stages of `viewRes`, then of the mirroring
  let x : Tens := { data := ⟨(h.t b).data.buf, dv⟩, const := resultConst fc h [b], creator := some h.next, base := some b }
  let h1 := (h.fresh.1.setOp h.next (mkOpRec (.view vf) [b] none fc)).modT b fun t => { t with ops := h.next :: t.ops }
  let V1 := (h1.fresh.1.setT (h.next + 1) x).modT b fun t => { t with vchildren := t.vchildren ++ [h.next + 1] }
  let h11 := (mirror V1 v (h.next + 1)).modT b fun t => { t with vchildren := (t.vchildren.filter (· ≠ h.next + 1)) ++ [v] }
  have V1t : ∀ t, t ≠ b → t ≠ h.next + 1 → V1.t t = h.t t := by
    intro t h1' h2'
    show ((h1.fresh.1.setT (h.next + 1) x).modT b _).t t = _
    rw [t_modT_ne _ _ _ _ h1', t_setT_ne _ _ _ _ h2']
    show h1.t t = h.t t
    exact t_modT_ne _ _ _ _ h1'
  have V1b : V1.t b = { h.t b with ops := h.next :: (h.t b).ops, vchildren := (h.t b).vchildren ++ [h.next + 1] } := by
    show ((h1.fresh.1.setT (h.next + 1) x).modT b _).t b = _
    rw [t_modT_self, t_setT_ne _ _ _ _ hbo]
    show (fun t : Tens => { t with vchildren := t.vchildren ++ [h.next + 1] }) (h1.t b) = _
    rw [show h1.t b = _ from t_modT_self _ _ _]
    rfl
  have Ft : ∀ t, t ≠ h.next + 1 → ({ h11 with tens := h11.tens.filter fun q => q.1 ≠ h.next + 1 } : Heap).t t =
      if t = b then { V1.t b with vchildren := ((V1.t b).vchildren.filter (· ≠ h.next + 1)) ++ [v] }
      else if t = v then x else h.t t := by
    intro t ht
    rw [t_filter_ne _ _ _ ht]
    by_cases e1 : t = b
    · subst e1
      rw [if_pos rfl, t_modT_self]
      simp only [mirror]; rw [t_setT_ne _ _ _ _ (Ne.symm hne)]
    · rw [if_neg e1, t_modT_ne _ _ _ _ e1]
      simp only [mirror]
      by_cases e2 : t = v
      · subst e2
        rw [if_pos rfl, t_setT_self, t_modT_ne _ _ _ _ (Ne.symm hbo)]
        exact t_setT_self _ _ _
      · rw [if_neg e2, t_setT_ne _ _ _ _ e2]; exact V1t t e1 ht
  refine ⟨{ h11 with tens := h11.tens.filter fun q => q.1 ≠ h.next + 1 }, ?_, ?_, ?_, ?_, ?_, rfl, ?_⟩
  · simp only [recreateViews, List.foldlM_cons, List.foldlM_nil, Bind.bind, Except.bind, hrep]
    rw [opStep_view _ vf b fc dv happ hb]
    rfl
  · rw [Ft v hvo, if_neg hne, if_pos rfl]
  · rw [Ft b hbo, if_pos rfl, V1b]
  · rw [Ft b hbo, if_pos rfl, V1b]
  · rw [Ft b hbo, if_pos rfl, V1b]; exact hb
  · refine ⟨Nat.le_succ_of_le (Nat.le_succ _), rfl, fun _ _ => rfl, fun t ht hX => ?_, fun g hg => ?_⟩
    · rw [Ft t (by omega), if_neg fun e => hX (by simp [e]), if_neg fun e => hX (by simp [e])]
      exact Same4.rfl' _
    · have : ({ h11 with tens := h11.tens.filter fun q => q.1 ≠ h.next + 1 } : Heap).op g = h.op g :=
        op_setOp_ne h.fresh.1 h.next g _ (by omega)
      rw [this]; exact ⟨rfl, rfl⟩

/-! ## `_in_place_op` down to the guarded call, for any graph -/

/-- what `_in_place_op` derives from its target `tgt` before the guarded call: the prelude only discards the target's
gradient, the family has base `b`, `DuplicatingGraph(b)` gives `(D, g)`, the copy of `b` is taken as a whole, and the
target's window of the copy is `win`, reached by replaying `chain` -/
structure Prepared (h : Heap) (roots : List Nat) (tgt b : Nat) (sib : Bool) (D : Heap) (g : DupGraph)
    (win : Desc) (chain : List ViewFn) : Prop where
  prelude : inPlacePrelude h (liveSet h roots) tgt = nullGrad h tgt
  sib : ((nullGrad h tgt).t tgt).base.isNone = sib
  baseId : ((nullGrad h tgt).t tgt).base.getD tgt = b
  dup : mkDupGraph (nullGrad h tgt) (liveSet h roots) b = .ok (D, g)
  gbase : g.base.tensor = b
  contig : (D.t b).data.d.isCContig = true
  node : ∃ ns, g.node? tgt = some ns
  target : inPlaceTarget (copyH D b).1 g tgt (copyH D b).2 = .ok (⟨D.next, win⟩, chain)
  views : chain.any ViewFn.isBroadcastTo = false
  writeable : (copyH D b).1.ro.contains (D.t b).data.buf = false

/-- **`_in_place_op` down to the guarded call.**  If the variables of the guarded call read the operands' values and
the target's window of the copy reads `old`, the NumPy-level statement `outWrite` decides: rejected, the old graph is
restored on the heap that holds the unused copy; accepted, the rest of `_in_place_op` (`mutateFinish`) runs on the heap
with the op recorded and the mutant's flag set to the base's.  This is the one place where `inPlaceOp` is unfolded. -/
theorem inPlaceOp_prepared {h : Heap} {roots : List Nat} {tgt b : Nat} {sib : Bool} {D : Heap} {g : DupGraph}
    {win : Desc} {chain : List ViewFn} (hp : Prepared h roots tgt b sib D g win chain)
    (kind : Kind) (inputs : List Operand) (wm : Option (Shape × List Bool)) (old : List Int)
    (hvals : let W := wrapOperands (copyH D b).1 (inputs.map (renameOp g.placeholderIfExists))
      W.2.map (fun i => W.1.val (W.1.t i).data) = inputs.map (operandVal h))
    (hread : (wrapOperands (copyH D b).1 (inputs.map (renameOp g.placeholderIfExists))).1.read ⟨D.next, win⟩ = old) :
    inPlaceOp h roots tgt kind inputs none wm =
      let ins := inputs.map (renameOp g.placeholderIfExists)
      let W := wrapOperands (copyH D b).1 ins
      match outWrite kind (inputs.map (operandVal h)) win.shape old wm with
      | .error e => .error (e, g.restore (copyH D b).1)
      | .ok vals =>
        let R := outRes W.1 kind (userIds ins) W.2 ⟨D.next, win⟩ vals wm
        mutateFinish (R.1.modT R.2 ({ · with const := (D.t b).const })) g tgt sib wm chain (copyH D b).2 R.2 := by
  obtain ⟨hpre, hsib, hbid, hdup, hgb, hcc, ⟨ns, hnode⟩, htg, hany, hro⟩ := hp
  unfold inPlaceOp
  simp only [hpre, hsib, hbid, Bind.bind, Except.bind]
  rw [hdup]
  show inPlaceMutate D g tgt sib kind inputs none wm = _
  rw [inPlaceMutate_eq]
  simp only [hgb, copyArrK_contig D b hcc, hnode, Option.isNone_some, Bool.false_eq_true, if_false, htg, hany, hro,
    Bool.or_self, opStepOut_eq]
  rw [hvals, hread]
  cases outWrite kind (inputs.map (operandVal h)) win.shape old wm <;> rfl

end MG.C04R
