import MG.Proofs.Lemmas.LinearBasic

/-! Helper lemmas: permutations — `argsort` is the inverse, the adjoint of a permutation gather is the
gather along the inverse permutation. -/
namespace MG.Lin

variable {R : Type} [CommSemiring R]

theorem vsum_perm {l₁ l₂ : List R} (h : l₁.Perm l₂) : vsum l₁ = vsum l₂ := by
  induction h with
  | nil => rfl
  | cons x _ ih => simp [vsum, ih]
  | swap x y l => simp only [vsum]; rw [← add_assoc, ← add_assoc, add_comm y x]
  | trans _ _ ih1 ih2 => rw [ih1, ih2]

/-- `⟨g, gather φ x⟩ = Σ_k g[k] · x[φ k]` -/
theorem dot_gather (g : List R) (φ : List Nat) (x : List R) (h : g.length = φ.length) :
    dot g (gather φ x) = vsum ((List.range φ.length).map fun k => g.getD k 0 * x.getD (φ.getD k 0) 0) := by
  induction g, φ, h using length_eq_induction with
  | nil => rfl
  | cons g0 g i φ _ ih =>
    show g0 * x.getD i 0 + dot g (gather φ x) = _
    rw [ih, List.length_cons, List.range_succ_eq_map, List.map_cons, List.map_map]
    rfl

theorem map_eq_map_range {β : Type} (φ : List Nat) (f : Nat → β) :
    φ.map f = (List.range φ.length).map (fun k => f (φ.getD k 0)) := by
  apply List.ext_getElem
  · simp
  · intro i h1 h2
    have hi : i < φ.length := by simpa using h1
    simp [List.getD_eq_getElem?_getD, hi]

/-- both sides are `Σ g[ψ i] · x[i]`, summed over `i` in the order `0, 1, …` on the left and in the order `φ` on the
right -/
theorem dot_gather_perm (φ ψ : List Nat) (n : Nat) (hφ : φ.Perm (List.range n))
    (hinv : ∀ k, k < n → ψ.getD (φ.getD k 0) 0 = k) (hψ : ψ.length = n) (g x : List R)
    (hg : g.length = n) (hx : x.length = n) : dot (gather ψ g) x = dot g (gather φ x) := by
  have hφl : φ.length = n := by simpa using hφ.length_eq
  rw [dot_comm, dot_gather x ψ g (hx.trans hψ.symm), dot_gather g φ x (hg.trans hφl.symm), hψ, hφl,
    vsum_perm (hφ.symm.map _), map_eq_map_range φ, hφl]
  congr 1
  apply List.map_congr_left
  intro k hk
  rw [hinv k (List.mem_range.mp hk), mul_comm]

theorem getD_argsort (p : List Nat) (i : Nat) (hi : i < p.length) : (argsort p).getD i 0 = p.idxOf i := by
  simp [argsort, List.getD_eq_getElem?_getD, hi]

theorem argsort_left_inv (p : List Nat) (hp : p.Perm (List.range p.length)) (k : Nat) (hk : k < p.length) :
    (argsort p).getD (p.getD k 0) 0 = k := by
  have hnd : p.Nodup := hp.nodup_iff.mpr List.nodup_range
  have hpk : p.getD k 0 = p[k] := by simp [List.getD_eq_getElem?_getD, hk]
  have hlt : p[k] < p.length := by
    have : p[k] ∈ List.range p.length := hp.mem_iff.mp (List.getElem_mem hk)
    exact List.mem_range.mp this
  rw [hpk, getD_argsort p _ hlt]
  exact hnd.idxOf_getElem k hk

theorem argsort_right_inv (p : List Nat) (hp : p.Perm (List.range p.length)) (i : Nat) (hi : i < p.length) :
    p.getD ((argsort p).getD i 0) 0 = i := by
  have hmem : i ∈ p := hp.mem_iff.mpr (List.mem_range.mpr hi)
  have hlt : p.idxOf i < p.length := List.idxOf_lt_length_iff.mpr hmem
  rw [getD_argsort p i hi]
  simp [List.getD_eq_getElem?_getD, hlt]

theorem length_argsort (p : List Nat) : (argsort p).length = p.length := by
  simp [argsort]

end MG.Lin
