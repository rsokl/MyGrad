import MG.Proofs.Lemmas.NumpyReal
import Mathlib.Analysis.SpecialFunctions.Trigonometric.Deriv
import Mathlib.Analysis.SpecialFunctions.Trigonometric.ArctanDeriv
import Mathlib.Analysis.SpecialFunctions.Trigonometric.InverseDeriv
import Mathlib.Analysis.SpecialFunctions.Log.Deriv
import Mathlib.Analysis.SpecialFunctions.Pow.Deriv
import Mathlib.Analysis.SpecialFunctions.Trigonometric.Bounds

/-!
# Derivatives of the functions of `NumpyReal.lean` and of `tanh`, `artanh` (not in this Mathlib)

Helper lemmas for `MG/Proofs/C02Scalar/*.lean`: the derivative of a function that agrees with a smooth one on a
half-line, of the hand-defined `cbrt`, `sinc`, `arctan2`, and of `F (1 / t)` for the inverse functions `F`.
-/

/-- a function that agrees with `F` to the right of some `a < x` has `F`'s derivative at `x` (the smooth pieces of
`abs`, `relu`, `maximum`, … and of the branch-wise definitions of `NumpyReal.lean`) -/
theorem HasDerivAt.congr_Ioi {f F : ℝ → ℝ} {d a x : ℝ} (hF : HasDerivAt F d x) (hx : a < x)
    (he : ∀ t, a < t → f t = F t) : HasDerivAt f d x :=
  hF.congr_of_eventuallyEq (Filter.eventually_of_mem (Ioi_mem_nhds hx) he)

theorem HasDerivAt.congr_Iio {f F : ℝ → ℝ} {d a x : ℝ} (hF : HasDerivAt F d x) (hx : x < a)
    (he : ∀ t, t < a → f t = F t) : HasDerivAt f d x :=
  hF.congr_of_eventuallyEq (Filter.eventually_of_mem (Iio_mem_nhds hx) he)

namespace MG.NP
open Real

theorem hasDerivAt_tanh (x : ℝ) : HasDerivAt Real.tanh (1 - Real.tanh x ^ 2) x := by
  have hc : Real.cosh x ≠ 0 := (Real.cosh_pos x).ne'
  refine (((Real.hasDerivAt_sinh x).fun_div (Real.hasDerivAt_cosh x) hc).congr_of_eventuallyEq
    (.of_forall Real.tanh_eq_sinh_div_cosh)).congr_deriv ?_
  rw [Real.tanh_eq_sinh_div_cosh, div_pow, sub_div, ← sq, div_self (pow_ne_zero 2 hc), ← sq]

/-- on `[-1, 1]` Mathlib's `artanh` is `1/2 · log ((1 + x) / (1 - x))` -/
theorem hasDerivAt_artanh {x : ℝ} (h1 : -1 < x) (h2 : x < 1) :
    HasDerivAt Real.artanh (1 / (1 - x ^ 2)) x := by
  have hp : 1 + x ≠ 0 := (neg_lt_iff_pos_add'.mp h1).ne'
  have hm : 1 - x ≠ 0 := (sub_pos.mpr h2).ne'
  have hd := (((hasDerivAt_id' x).const_add 1).fun_div ((hasDerivAt_id' x).const_sub 1) hm).log
    (div_ne_zero hp hm)
  refine ((hd.const_mul (1 / 2 : ℝ)).congr_of_eventuallyEq
    (Filter.eventually_of_mem (Icc_mem_nhds h1 h2) fun t ht => Real.artanh_eq_half_log ht)).congr_deriv ?_
  rw [show 1 - x ^ 2 = (1 - x) * (1 + x) by ring]
  field_simp
  ring

theorem cbrt_of_nonneg {x : ℝ} (hx : 0 ≤ x) : cbrt x = x ^ ((1 : ℝ) / 3) := if_pos hx

theorem cbrt_neg (x : ℝ) : cbrt (-x) = -cbrt x := by
  rcases lt_trichotomy x 0 with h | rfl | h
  · rw [cbrt, cbrt, if_pos (neg_nonneg.mpr h.le), if_neg h.not_ge, neg_neg]
  · simp [cbrt]
  · rw [cbrt, cbrt, if_neg (neg_nonneg.not.mpr h.not_ge), if_pos h.le, neg_neg]

theorem hasDerivAt_cbrt_of_pos {x : ℝ} (hx : 0 < x) : HasDerivAt cbrt (1 / (3 * cbrt (x ^ 2))) x := by
  refine ((Real.hasDerivAt_rpow_const (p := 1 / 3) (Or.inl hx.ne')).congr_Ioi hx
    fun t ht => cbrt_of_nonneg ht.le).congr_deriv ?_
  have h : x ^ ((1 : ℝ) / 3 - 1) * cbrt (x ^ 2) = 1 := by
    rw [cbrt_of_nonneg (sq_nonneg x), ← Real.rpow_natCast, ← Real.rpow_mul hx.le, ← Real.rpow_add hx]
    norm_num
  rw [eq_div_iff (mul_ne_zero three_ne_zero (right_ne_zero_of_mul_eq_one h))]
  linear_combination h

/-- the negative half-line follows from the positive one because `cbrt` is odd -/
theorem hasDerivAt_cbrt {x : ℝ} (hx : x ≠ 0) : HasDerivAt cbrt (1 / (3 * cbrt (x ^ 2))) x := by
  rcases hx.lt_or_gt with hn | hp
  · have h := ((hasDerivAt_cbrt_of_pos (neg_pos.mpr hn)).comp x (hasDerivAt_neg x)).neg
    rw [neg_sq, mul_neg_one, neg_neg] at h
    exact h.congr_of_eventuallyEq (.of_forall fun t => by rw [Pi.neg_apply, Function.comp, cbrt_neg, neg_neg])
  · exact hasDerivAt_cbrt_of_pos hp

theorem hasDerivAt_sinc {x : ℝ} (hx : x ≠ 0) :
    HasDerivAt sinc (Real.pi * ((Real.pi * x * Real.cos (Real.pi * x) - Real.sin (Real.pi * x)) / (Real.pi * x) ^ 2)) x := by
  have hl : HasDerivAt (fun t : ℝ => Real.pi * t) Real.pi x := hasDerivAt_const_mul Real.pi
  refine ((hl.sin.fun_div hl (mul_ne_zero Real.pi_ne_zero hx)).congr_of_eventuallyEq
    (Filter.eventually_of_mem (isOpen_ne.mem_nhds hx) fun t ht => if_neg ht)).congr_deriv ?_
  ring

theorem arctan2_of_pos_right {a b : ℝ} (hb : 0 < b) : arctan2 a b = Real.arctan (a / b) := if_pos hb

theorem arctan2_of_pos_left {a : ℝ} (ha : 0 < a) (b : ℝ) : arctan2 a b = Real.pi / 2 - Real.arctan (b / a) := by
  unfold arctan2
  rcases lt_trichotomy b 0 with hb | rfl | hb
  · rw [if_neg hb.not_gt, if_pos hb, if_pos ha.le, ← inv_div b a,
      arctan_inv_of_neg (div_neg_of_neg_of_pos hb ha)]
    ring
  · rw [if_neg (lt_irrefl 0), if_neg (lt_irrefl 0), if_pos ha, zero_div, arctan_zero, sub_zero]
  · rw [if_pos hb, ← inv_div b a, arctan_inv_of_pos (div_pos hb ha)]

theorem arctan2_of_neg_left {a : ℝ} (ha : a < 0) (b : ℝ) : arctan2 a b = -(Real.pi / 2) - Real.arctan (b / a) := by
  unfold arctan2
  rcases lt_trichotomy b 0 with hb | rfl | hb
  · rw [if_neg hb.not_gt, if_pos hb, if_neg ha.not_ge, ← inv_div b a,
      arctan_inv_of_pos (div_pos_of_neg_of_neg hb ha)]
    ring
  · rw [if_neg (lt_irrefl 0), if_neg (lt_irrefl 0), if_neg ha.not_gt, if_pos ha, zero_div, arctan_zero, sub_zero]
  · rw [if_pos hb, ← inv_div b a, arctan_inv_of_neg (div_neg_of_pos_of_neg hb ha)]

/-- the algebra of `arctan (p / q)`: `1 + (p / q)² = (q² + p²) / q²`, and the quotient rule divides by `q²`, which
cancels -/
theorem one_div_one_add_sq_mul {q : ℝ} (hq : q ≠ 0) (p n : ℝ) :
    1 / (1 + (p / q) ^ 2) * (n / q ^ 2) = n / (p ^ 2 + q ^ 2) := by
  have h := pow_ne_zero 2 hq
  rw [div_pow, one_add_div h, one_div_div, div_mul_div_cancel₀' h, add_comm]

theorem hasDerivAt_arctan_div_left (a : ℝ) {b : ℝ} (hb : b ≠ 0) :
    HasDerivAt (fun t => arctan (t / b)) (b / (a ^ 2 + b ^ 2)) a :=
  ((hasDerivAt_id' a).fun_div (hasDerivAt_const a b) hb).arctan.congr_deriv
    (by rw [one_div_one_add_sq_mul hb, mul_zero, sub_zero, one_mul])

theorem hasDerivAt_arctan_div_right (a : ℝ) {b : ℝ} (hb : b ≠ 0) :
    HasDerivAt (fun t => arctan (a / t)) (-a / (a ^ 2 + b ^ 2)) b :=
  ((hasDerivAt_const b a).fun_div (hasDerivAt_id' b) hb).arctan.congr_deriv
    (by rw [one_div_one_add_sq_mul hb, zero_mul, zero_sub, mul_one])

/-! The slit plane `0 < b ∨ a ≠ 0` is covered by the three open sets `0 < b`, `a < 0`, `0 < a`, on each of which
`arctan2` is a constant plus or minus the `arctan` of a quotient: both partial derivatives are read off these. -/

/-- derivative in the ordinate (first argument of `np.arctan2`) on the slit plane -/
theorem hasDerivAt_arctan2_left {a b : ℝ} (h : 0 < b ∨ a ≠ 0) :
    HasDerivAt (fun t => arctan2 t b) (b / (a ^ 2 + b ^ 2)) a := by
  have hd := fun ha c => ((hasDerivAt_arctan_div_right b (b := a) ha).const_sub c).congr_deriv
    (show -(-b / (b ^ 2 + a ^ 2)) = b / (a ^ 2 + b ^ 2) by ring)
  rcases h with hb | ha
  · exact (hasDerivAt_arctan_div_left a hb.ne').congr_of_eventuallyEq
      (.of_forall fun t => arctan2_of_pos_right hb)
  · rcases ha.lt_or_gt with hn | hp
    · exact (hd ha _).congr_Iio hn fun t ht => arctan2_of_neg_left ht b
    · exact (hd ha _).congr_Ioi hp fun t ht => arctan2_of_pos_left ht b

/-- derivative in the abscissa (second argument of `np.arctan2`) on the slit plane -/
theorem hasDerivAt_arctan2_right {a b : ℝ} (h : 0 < b ∨ a ≠ 0) :
    HasDerivAt (fun t => arctan2 a t) (-a / (a ^ 2 + b ^ 2)) b := by
  have hd := fun ha c => ((hasDerivAt_arctan_div_left b (b := a) ha).const_sub c).congr_deriv
    (show -(a / (b ^ 2 + a ^ 2)) = -a / (a ^ 2 + b ^ 2) by ring)
  rcases h with hb | ha
  · exact (hasDerivAt_arctan_div_right a hb.ne').congr_Ioi hb fun t ht => arctan2_of_pos_right ht
  · rcases ha.lt_or_gt with hn | hp
    · exact (hd ha _).congr_of_eventuallyEq (.of_forall fun t => arctan2_of_neg_left hn t)
    · exact (hd ha _).congr_of_eventuallyEq (.of_forall fun t => arctan2_of_pos_left hp t)

theorem hasDerivAt_one_div {x : ℝ} (hx : x ≠ 0) : HasDerivAt (fun t : ℝ => 1 / t) (-1 / x ^ 2) x := by
  simpa only [one_div, neg_div] using hasDerivAt_inv hx

theorem _root_.HasDerivAt.comp_one_div {F : ℝ → ℝ} {d x : ℝ} (hF : HasDerivAt F d (1 / x)) (hx : x ≠ 0) :
    HasDerivAt (fun t => F (1 / t)) (d * (-1 / x ^ 2)) x :=
  hF.comp x (hasDerivAt_one_div hx)

/-- the algebra shared by `arcsin (1/t)`, `arccos (1/t)` and `arsinh (1/t)`: there `1 ∓ (1/x)² = c / x²` with
`c = x² ∓ 1`, and the chain rule's `1 / √(c / x²) · (-1 / x²)` is the `-1 / (|x| √c)` of the code
(`√(c / x²) = √c / |x|`, `-1 / x² = (-1 / |x|) / |x|`, and one `|x|` cancels) -/
theorem inv_sqrt_div_sq_mul {x c : ℝ} (hx : x ≠ 0) :
    1 / √(c / x ^ 2) * (-1 / x ^ 2) = -1 / (|x| * √c) := by
  rw [Real.sqrt_div' _ (sq_nonneg x), Real.sqrt_sq_eq_abs, ← sq_abs x, sq, ← div_div (-1) |x|, one_div_div,
    div_mul_div_cancel₀' (abs_ne_zero.mpr hx), div_div]

theorem one_lt_abs {x : ℝ} (h : 1 < |x|) : x ≠ 0 ∧ -1 < 1 / x ∧ 1 / x < 1 := by
  have ha : 0 < |x| := one_pos.trans h
  refine ⟨abs_pos.mp ha, abs_lt.mp ?_⟩
  rwa [abs_div, abs_one, div_lt_one ha]

theorem hasDerivAt_arcsin_inv {x : ℝ} (h : 1 < |x|) :
    HasDerivAt (fun t => Real.arcsin (1 / t)) (-1 / (|x| * √(x ^ 2 - 1))) x := by
  obtain ⟨hx, h1, h2⟩ := one_lt_abs h
  refine ((Real.hasDerivAt_arcsin h1.ne' h2.ne).comp_one_div hx).congr_deriv ?_
  rw [← inv_sqrt_div_sq_mul hx, sub_div, div_self (pow_ne_zero 2 hx), one_div_pow]

/-- `arccos = π/2 - arcsin` -/
theorem hasDerivAt_arccos_inv {x : ℝ} (h : 1 < |x|) :
    HasDerivAt (fun t => Real.arccos (1 / t)) (1 / (|x| * √(x ^ 2 - 1))) x :=
  ((hasDerivAt_arcsin_inv h).const_sub (π / 2)).congr_deriv (by rw [neg_div, neg_neg])

theorem hasDerivAt_arctan_inv {x : ℝ} (hx : x ≠ 0) :
    HasDerivAt (fun t => Real.arctan (1 / t)) (-1 / (1 + x ^ 2)) x :=
  (hasDerivAt_arctan_div_right 1 hx).congr_deriv (by rw [one_pow])

theorem hasDerivAt_arsinh_inv {x : ℝ} (hx : x ≠ 0) :
    HasDerivAt (fun t => Real.arsinh (1 / t)) (-1 / (|x| * √(1 + x ^ 2))) x := by
  refine ((Real.hasDerivAt_arsinh (1 / x)).comp_one_div hx).congr_deriv ?_
  rw [← one_div, ← inv_sqrt_div_sq_mul hx, add_div, div_self (pow_ne_zero 2 hx), one_div_pow, add_comm]

/-- `1 - (1/x)² = (x² - 1) / x²`, and `-1 / (x² - 1) = 1 / (1 - x²)` -/
theorem hasDerivAt_artanh_inv {x : ℝ} (h : 1 < |x|) :
    HasDerivAt (fun t => Real.artanh (1 / t)) (1 / (1 - x ^ 2)) x := by
  obtain ⟨hx0, hu1, hu2⟩ := one_lt_abs h
  have h2 := pow_ne_zero 2 hx0
  refine ((hasDerivAt_artanh hu1 hu2).comp_one_div hx0).congr_deriv ?_
  rw [one_div_pow, one_sub_div h2, one_div_div, div_mul_div_cancel₀' h2, neg_div, ← div_neg, neg_sub]

/-! ### `np.sinc` at `0`: from `|u - sin u| ≤ |u|³ / 6`, `sinc t - 1 = O(t²)` -/

theorem abs_sin_div_sub_one_le {u : ℝ} (hu : u ≠ 0) : |Real.sin u / u - 1| ≤ u ^ 2 / 6 := by
  rw [div_sub_one hu, abs_div, abs_sub_comm, div_le_iff₀ (abs_pos.mpr hu), ← sq_abs u]
  exact (Real.abs_sub_sin_le u).trans_eq (by ring)

theorem hasDerivAt_sinc_zero : HasDerivAt sinc 0 0 := by
  rw [hasDerivAt_iff_isLittleO_nhds_zero]
  refine (Asymptotics.IsBigO.of_bound (Real.pi ^ 2 / 6) (.of_forall fun t => ?_)).trans_isLittleO
    (Asymptotics.isLittleO_pow_id one_lt_two)
  rw [zero_add, smul_zero, sub_zero, norm_eq_abs, norm_eq_abs, abs_sq, show sinc 0 = 1 from if_pos rfl,
    sinc]
  split
  · rw [sub_self, abs_zero]
    positivity
  · next ht => exact (abs_sin_div_sub_one_le (mul_ne_zero Real.pi_ne_zero ht)).trans_eq (by ring)

end MG.NP
