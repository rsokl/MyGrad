import MG.Proofs.Lemmas.Frame
/-!
`Tensor._op` (model: `MG.Eng.opStep`) piece by piece — wrapping of literals, forward pass, recording — each
characterised once; C04, C10, C12 and the acyclicity proof read their facts off these.
-/
namespace MG.Eng
open MG.ND

/-- `h'` extends `h`: everything below `h.next` is as it was -/
structure Ext (h h' : Heap) : Prop where
  next : h.next ≤ h'.next
  tens : ∀ t, t < h.next → h'.t t = h.t t
  buf : ∀ b, b < h.next → h'.buf b = h.buf b
  ops : h'.ops = h.ops
  ro : h'.ro = h.ro

theorem Ext.refl (h : Heap) : Ext h h := ⟨Nat.le_refl _, fun _ _ => rfl, fun _ _ => rfl, rfl, rfl⟩
theorem Ext.trans {a b c : Heap} (h1 : Ext a b) (h2 : Ext b c) : Ext a c :=
  ⟨Nat.le_trans h1.next h2.next, fun t ht => (h2.tens t (Nat.lt_of_lt_of_le ht h1.next)).trans (h1.tens t ht),
   fun b hb => (h2.buf b (Nat.lt_of_lt_of_le hb h1.next)).trans (h1.buf b hb),
   h2.ops.trans h1.ops, h2.ro.trans h1.ro⟩

/-- a leaf tensor (`mg.tensor(data)`), and what wrapping a literal operand creates: fresh buffer, fresh creator-less
tensor -/
def mkLeaf (h : Heap) (v : Val) (c : Bool) : Heap × Nat :=
  let (h, a) := h.newArr v
  let (h, t) := h.fresh
  (h.setT t { data := a, const := c }, t)

theorem mkLeaf_t (h : Heap) (v : Val) (c : Bool) :
    (mkLeaf h v c).1.t (h.next + 1) = { data := (h.newArr v).2, const := c } := t_setT_self _ _ _

theorem wrapOperands_lit (h : Heap) (v : Val) (r : List Operand) :
    wrapOperands h (.lit v :: r) =
      ((wrapOperands (mkLeaf h v true).1 r).1, (h.next + 1) :: (wrapOperands (mkLeaf h v true).1 r).2) := rfl

theorem ext_mkLeaf (h : Heap) (v : Val) (c : Bool) : Ext h (mkLeaf h v c).1 := by
  refine ⟨Nat.le_add_right h.next 2, fun t ht => ?_, fun b hb => newArr_frames h v b (Nat.ne_of_lt hb), rfl, rfl⟩
  exact t_setT_ne _ _ _ _ (Nat.ne_of_lt (Nat.lt_succ_of_lt ht))

theorem wrap_ext (inputs : List Operand) : ∀ h : Heap, Ext h (wrapOperands h inputs).1 := by
  induction inputs with
  | nil => intro h; exact Ext.refl h
  | cons o r ih =>
    intro h
    cases o with
    | t i => exact ih h
    | lit v => exact (ext_mkLeaf h v true).trans (ih _)

/-- a successful forward pass either leaves the heap alone — a view served as a view (window into the parent's
buffer), or `ApplyMask` (its first argument's array) — or allocates one array for the result -/
theorem forwardOp_ok {h h' : Heap} {kind : Kind} {vars : List Nat} {a : Arr} {p : Option Nat}
    (hok : forwardOp h kind vars = .ok (h', a, p)) :
    h' = h ∧ ((∃ f, kind = .view f) ∧ p = some (vars.getD 0 0) ∧ a.buf = (h.t (vars.getD 0 0)).data.buf ∨
      (∃ m, kind = .applyMask m) ∧ p = none) ∨
    p = none ∧ ∃ v, h.newArr v = (h', a) := by
  revert hok
  fun_cases forwardOp h kind vars
  · rintro ⟨⟩
  · rintro ⟨⟩; exact .inl ⟨rfl, .inl ⟨⟨_, rfl⟩, rfl, rfl⟩⟩
  · rintro ⟨⟩; exact .inr ⟨rfl, _, ‹_›⟩
  · rintro ⟨⟩; exact .inl ⟨rfl, .inr ⟨⟨_, rfl⟩, rfl⟩⟩
  · rintro ⟨⟩
  · rintro ⟨⟩; exact .inr ⟨rfl, _, ‹_›⟩

/-- so the heap after a successful forward pass extends the one before, with the tensor records as they were -/
theorem forwardOp_ext {h h' : Heap} {kind : Kind} {vars : List Nat} {a : Arr} {p : Option Nat}
    (hok : forwardOp h kind vars = .ok (h', a, p)) : Ext h h' ∧ ∀ t, h'.t t = h.t t := by
  rcases forwardOp_ok hok with ⟨rfl, -⟩ | ⟨-, v, e⟩
  · exact ⟨Ext.refl _, fun _ => rfl⟩
  · rw [← (Prod.mk.inj e).1]
    exact ⟨⟨Nat.le_succ _, fun _ _ => rfl, fun b hb => newArr_frames h v b (Nat.ne_of_lt hb), rfl, rfl⟩, fun _ => rfl⟩

/-- creating the result tensor: a fresh id holds the record `x`; of the other records only a parent's list of view
children changes -/
theorem attachResult_spec {β} (π : Tens → β) (hπ : ∀ (x : Tens) vc, π { x with vchildren := vc } = π x)
    (h : Heap) (x : Tens) (parent : Option Nat) :
    (attachResult h x parent).2 = h.next ∧ (attachResult h x parent).1.next = h.next + 1 ∧
    (attachResult h x parent).1.bufs = h.bufs ∧ (attachResult h x parent).1.ops = h.ops ∧
    π ((attachResult h x parent).1.t h.next) = π x ∧
    ∀ t, t ≠ h.next → π ((attachResult h x parent).1.t t) = π (h.t t) := by
  have s : TStep (Keeps π) (h.fresh.1.setT h.next x) (attachResult h x parent).1 ∧
      (attachResult h x parent).1.next = h.next + 1 := by
    unfold attachResult
    simp only
    split
    · split
      · exact ⟨.modT _ _ fun _ => hπ _ _, rfl⟩
      · exact ⟨.refl _, rfl⟩
    · exact ⟨.refl _, rfl⟩
  exact ⟨rfl, s.2, s.1.bufs, s.1.ops, (s.1.t _).trans (by rw [t_setT_self]),
    fun t ht => (s.1.t t).trans (by rw [t_setT_ne _ _ _ _ ht]; rfl)⟩

/-- the recording half of `Tensor._op`: a fresh op record `f` over `vars` and a fresh result tensor created by it;
the other tensor records change in bookkeeping fields only -/
theorem recordOp_spec {β} (π : Tens → β)
    (hπ : ∀ (x : Tens) b g o vg ops vc,
      π { x with base := b, grad := g, gradObj := o, viewGrad := vg, ops := ops, vchildren := vc } = π x)
    (h : Heap) (kind : Kind) (vars us : List Nat) (c : Bool) (constant : Option Bool)
    (wm : Option (Shape × List Bool)) (outArr : Arr) (parent : Option Nat) :
    let r := recordOp h kind vars us c constant wm outArr parent
    ∃ f b, h.next ≤ f ∧ f < r.2 ∧ r.2 < r.1.next ∧ r.1.bufs = h.bufs ∧
      (r.1.op f).vars = vars ∧ (∀ g, g ≠ f → r.1.op g = h.op g) ∧
      π (r.1.t r.2) = π { data := outArr, const := c, creator := some f, base := b } ∧
      ∀ t, t ≠ r.2 → π (r.1.t t) = π (h.t t) := by
  -- the stages: `hb` after the fix-ups of the inputs, the record `rec0` stored under the fresh id `hb.next`, `h3`
  -- after the consumer lists of the variables, and the result record `x` attached last
  have s1 := prepInputs_step π (fun x b g o vg => hπ x b g o vg x.ops x.vchildren) h us parent
  generalize hhb : (prepInputs h us parent).1 = hb at s1
  generalize hrec : mkOpRec kind vars wm (if (prepInputs h us parent).2.isSome then constant else none) = rec0
  have hv : rec0.vars = vars := by rw [← hrec]; rfl
  have s3 : TStep (Keeps π) (hb.fresh.1.setOp hb.next rec0)
      (vars.foldl (fun h v => h.modT v fun t => { t with ops := hb.next :: t.ops }) (hb.fresh.1.setOp hb.next rec0)) :=
    .foldl _ (fun h v => .modT _ _ fun x => hπ x x.base x.grad x.gradObj x.viewGrad _ x.vchildren) vars _
  generalize hh3 : vars.foldl (fun h v => h.modT v fun t => { t with ops := hb.next :: t.ops })
    (hb.fresh.1.setOp hb.next rec0) = h3 at s3
  generalize hx : ({ data := outArr, const := c, creator := some hb.next, base := (prepInputs h us parent).2 } : Tens) = x
  obtain ⟨a1, a2, a3, a4, a5, a6⟩ :=
    attachResult_spec π (fun x vc => hπ x x.base x.grad x.gradObj x.viewGrad x.ops vc) h3 x parent
  have hr : recordOp h kind vars us c constant wm outArr parent = attachResult h3 x parent := by
    subst hhb hrec hh3 hx; rfl
  have hn3 : hb.next + 1 ≤ h3.next := s3.next
  have hop (g : Nat) : (attachResult h3 x parent).1.op g = (hb.fresh.1.setOp hb.next rec0).op g := by
    simp only [Heap.op, a4, s3.ops]
  intro r
  refine ⟨hb.next, (prepInputs h us parent).2, s1.next, ?_⟩
  simp only [r, hr, a1, a2]
  refine ⟨by omega, by omega, a3.trans (s3.bufs.trans s1.bufs), ?_, fun g hg => ?_, by rw [a5, hx],
    fun t ht => (a6 t ht).trans ((s3.t t).trans (s1.t t))⟩
  · rw [hop, op_setOp_self, hv]
  · rw [hop, op_setOp_ne _ _ _ _ hg, op_fresh, s1.op]

/-- a successful `Tensor._op` is a successful forward pass on the heap with the literals wrapped, followed by the
recording of the op -/
theorem opStep_ok {h h' : Heap} {kind : Kind} {inputs : List Operand} {constant : Option Bool}
    {wm : Option (Shape × List Bool)} {o : Nat} (hok : opStep h kind inputs constant wm = .ok (h', o)) :
    ∃ hh outArr parent us,
      forwardOp (wrapOperands h inputs).1 kind (wrapOperands h inputs).2 = .ok (hh, outArr, parent) ∧
      recordOp hh kind (wrapOperands h inputs).2 us
        (resultConst constant (wrapOperands h inputs).1 (wrapOperands h inputs).2) constant wm outArr parent = (h', o) := by
  unfold opStep at hok
  simp only at hok
  split at hok
  · cases hok
  · rename_i hh outArr parent hfwd
    exact ⟨hh, outArr, parent, _, hfwd, Except.ok.inj hok⟩

end MG.Eng
