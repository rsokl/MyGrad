import MG.Proofs.Lemmas.Heap
/-!
What a step of the engine may change.  `backward` and everything it calls, and the bookkeeping half of
`Tensor._op`, only rewrite tensor records and draw ids: `TStep R h h'` says so, `R` bounding what may
happen to each record.  Each such function has one theorem of this form (`backward_exits` puts those of
`backward` together); the frame facts of C04/C07/C12/C14 and of the acyclicity proof are read off it.
-/
namespace MG.Eng

/-- `h'` is `h` with tensor records rewritten — each record `x` into some `y` with `R x y` — and,
possibly, ids drawn: array buffers and op records are as they were -/
structure TStep (R : Tens → Tens → Prop) (h h' : Heap) : Prop where
  bufs : h'.bufs = h.bufs
  ops : h'.ops = h.ops
  next : h.next ≤ h'.next
  t : ∀ i, R (h.t i) (h'.t i)

namespace TStep
variable {R S : Tens → Tens → Prop} {h h' h'' : Heap}

theorem op (s : TStep R h h') (f : Nat) : h'.op f = h.op f := by simp only [Heap.op, s.ops]

theorem mono (s : TStep R h h') (hRS : ∀ x y, R x y → S x y) : TStep S h h' :=
  ⟨s.bufs, s.ops, s.next, fun i => hRS _ _ (s.t i)⟩

theorem refl [Std.Refl R] (h : Heap) : TStep R h h := ⟨rfl, rfl, Nat.le_refl _, fun _ => Std.Refl.refl _⟩

theorem trans [Trans R R R] (s : TStep R h h') (s' : TStep R h' h'') : TStep R h h'' :=
  ⟨s'.bufs.trans s.bufs, s'.ops.trans s.ops, Nat.le_trans s.next s'.next,
    fun i => Trans.trans (s.t i) (s'.t i)⟩

theorem modT [Std.Refl R] (i : Nat) (f : Tens → Tens) (hf : ∀ x, R x (f x)) : TStep R h (h.modT i f) :=
  ⟨rfl, rfl, Nat.le_refl _, fun j => t_modT_rel h i j f (Std.Refl.refl _) (hf _)⟩

theorem fresh [Std.Refl R] (h : Heap) : TStep R h h.fresh.1 :=
  ⟨rfl, rfl, Nat.le_succ _, fun _ => Std.Refl.refl _⟩

theorem foldl {γ} [Std.Refl R] [Trans R R R] (step : Heap → γ → Heap) (hs : ∀ h c, TStep R h (step h c))
    (xs : List γ) (h : Heap) : TStep R h (xs.foldl step h) :=
  List.foldlRecOn xs step (refl h) fun _ s c _ => s.trans (hs _ c)

end TStep

def Keeps {β} (π : Tens → β) (x y : Tens) : Prop := π y = π x

instance {β} (π : Tens → β) : Std.Refl (Keeps π) := ⟨fun _ => rfl⟩
instance {β} (π : Tens → β) : Trans (Keeps π) (Keeps π) (Keeps π) := ⟨fun a b => Eq.trans b a⟩

/-- the graph fields of a record may only be dropped -/
def ShrinkR (x y : Tens) : Prop :=
  (y.creator = x.creator ∨ y.creator = none) ∧ (y.ops = x.ops ∨ y.ops = [])

instance : Std.Refl ShrinkR := ⟨fun _ => ⟨.inl rfl, .inl rfl⟩⟩
instance : Trans ShrinkR ShrinkR ShrinkR :=
  ⟨fun a b => ⟨b.1.elim (fun e => e ▸ a.1) .inr, b.2.elim (fun e => e ▸ a.2) .inr⟩⟩

/-- reading `.grad` only ever refreshes `_view_grad` caches -/
theorem gradPropObj_step {β} (π : Tens → β) (hπ : ∀ x vg, π { x with viewGrad := vg } = π x)
    (fuel : Nat) (h : Heap) (t : Nat) : TStep (Keeps π) h (gradPropObj fuel h t).1 := by
  fun_induction gradPropObj fuel h t with
  | case8 =>
    rename_i e _ ih
    rw [e] at ih
    exact ih.trans (TStep.modT (R := Keeps π) _ _ fun _ => hπ _ _)
  | _ => exact .refl _

/-- reading `.grad` of a tensor that owns its memory returns its `_grad` -/
theorem gradProp_of_base_none (h : Heap) (t : Nat) (hb : (h.t t).base = none) :
    (gradProp h.fuel h t).2 = (h.t t).grad := by
  show ((gradPropObj (h.next + 1 + 1) h t).2).map (·.1) = _
  unfold gradPropObj
  simp only [hb]
  cases (h.t t).grad <;> rfl

/-- `clear_graph` with fuel left: after the pull (`h1`) the tensor loses its consumers and view children; if it
still has a creator it loses that too, and the call recurses into the creator's variables -/
theorem clearGraph_succ (fuel : Nat) (h : Heap) (t : Nat) :
    ∃ h1, TStep (Keeps fun x => (x.creator, x.ops)) h h1 ∧ clearGraph (fuel + 1) h t =
      match (h.t t).creator with
      | none => h1.modT t fun x => { x with vchildren := [], ops := [] }
      | some f => (h.op f).vars.foldl (clearGraph fuel)
          (h1.modT t fun x => { x with vchildren := [], ops := [], creator := none }) := by
  -- the "pull" on a view's gradient with which `clear_graph` starts
  have hp : TStep (Keeps fun x => (x.creator, x.ops)) h (if (h.t t).base.isSome then (gradProp h.fuel h t).1 else h) := by
    split
    · unfold gradProp; exact gradPropObj_step _ (fun _ _ => rfl) _ h t
    · exact .refl h
  have hc : (_ : Tens).creator = (h.t t).creator := congrArg Prod.fst (hp.t t)
  refine ⟨_, hp, ?_⟩
  rw [clearGraph]
  simp only [hc]
  cases (h.t t).creator with
  | none => rfl
  | some f => simp only [modT_modT, op_modT, hp.op]; rfl

theorem ShrinkR.of_keeps {x y : Tens} (e : Keeps (fun x => (x.creator, x.ops)) x y) : ShrinkR x y :=
  ⟨.inl (congrArg Prod.fst e), .inl (congrArg Prod.snd e)⟩

/-- `clear_graph` only drops graph information (after refreshing view-gradient caches) -/
theorem clearGraph_step (fuel : Nat) (h : Heap) (t : Nat) : TStep ShrinkR h (clearGraph fuel h t) := by
  induction fuel generalizing h t with
  | zero => exact .refl h
  | succ fuel ih =>
    obtain ⟨h1, hp, e⟩ := clearGraph_succ fuel h t
    rw [e]
    have s1 : TStep ShrinkR h h1 := hp.mono fun _ _ => .of_keeps
    split
    · exact s1.trans (.modT _ _ fun _ => ⟨.inl rfl, .inr rfl⟩)
    · exact (s1.trans (.modT _ _ fun _ => ⟨.inr rfl, .inr rfl⟩)).trans (.foldl _ (fun h v => ih h v) _ _)

theorem startOver_step {β} (π : Tens → β) (hπ : ∀ x : Tens, π { x with base := none } = π x) (h : Heap) (L : Nat) :
    TStep (Keeps π) h (startOver h L) := by
  unfold startOver
  split
  · exact .modT _ _ hπ
  · exact .refl h

@[simp] theorem startOver_data (h : Heap) (L t : Nat) : ((startOver h L).t t).data = (h.t t).data :=
  (startOver_step (·.data) (fun _ => rfl) h L).t t

@[simp] theorem startOver_const (h : Heap) (L t : Nat) : ((startOver h L).t t).const = (h.t t).const :=
  (startOver_step (·.const) (fun _ => rfl) h L).t t

@[simp] theorem startOver_creator (h : Heap) (L t : Nat) : ((startOver h L).t t).creator = (h.t t).creator :=
  (startOver_step (·.creator) (fun _ => rfl) h L).t t

/-- a tensor that still has its creator, or has no base, is left exactly as it is -/
theorem startOver_id (h : Heap) (L : Nat) (hL : ¬ ((h.t L).base.isSome ∧ (h.t L).creator.isNone)) :
    startOver h L = h := by
  unfold startOver; rw [if_neg hL]

/-- the traversal's nulling of the gradients of the tensors it touched -/
theorem nullGrads_step {β} (π : Tens → β) (hπ : ∀ x : Tens, π { x with grad := none, viewGrad := none } = π x)
    (ts : List Nat) (h : Heap) :
    TStep (Keeps π) h (ts.foldl (fun h t => h.modT t ({ · with grad := none, viewGrad := none })) h) :=
  .foldl _ (fun _ _ => .modT _ _ hπ) ts h

theorem storeGrads_step {β} (π : Tens → β) (hπ : ∀ (x : Tens) g o, π { x with grad := g, gradObj := o } = π x)
    (gr : GMap) (h : Heap) : TStep (Keeps π) h (storeGrads h gr) :=
  .foldl _ (fun h _ => (TStep.fresh h).trans (.modT _ _ fun _ => hπ _ _ _)) gr h

/-- every exit of `backward` — completed, rejected, or interrupted — is reached by rewriting the gradient fields
and `.base` of tensor records; a completed call then ends with `clear_graph`, with fuel to spare -/
theorem backward_exits {β} (π : Tens → β)
    (hπ : ∀ (x : Tens) b g o vg, π { x with base := b, grad := g, gradObj := o, viewGrad := vg } = π x)
    (h : Heap) (L : Nat) (seed : Seed) :
    ∃ hh, TStep (Keeps π) h hh ∧
      (backward h L seed = .ok (clearGraph hh.fuel hh L) ∨ ∃ e, backward h L seed = .error (e, hh)) := by
  have s1 := startOver_step π (fun x => hπ x none x.grad x.gradObj x.viewGrad) h L
  have s2 ts := s1.trans (nullGrads_step π (fun x => hπ x x.base none x.gradObj none) ts _)
  have s3 ts gr := (s2 ts).trans (storeGrads_step π (fun x g o => hπ x x.base g o x.viewGrad) gr _)
  unfold backward
  by_cases hc : (h.t L).const = true
  · exact ⟨h, .refl h, .inl (if_pos hc)⟩
  simp only [hc]
  cases collect (startOver h L).fuel (startOver h L) L [] [] with
  | none => exact ⟨_, s1, .inr ⟨_, rfl⟩⟩
  | some r =>
    cases seedVal (h.t L).data.d.shape seed with
    | error e => exact ⟨_, s2 r.1, .inr ⟨e, rfl⟩⟩
    | ok g =>
      simp only
      generalize backwardGrads _ L r.2 g = bg
      obtain ⟨gr, _ | e⟩ := bg
      · exact ⟨_, s3 r.1 gr, .inl rfl⟩
      · exact ⟨_, s3 r.1 gr, .inr ⟨e, rfl⟩⟩

/-- the fix-ups `Tensor._op` applies to its inputs: stale `.base` links are dropped (a disconnected view keeping a
copy of the gradient it reported), and a non-view op nulls the inputs' gradients -/
theorem prepInputs_step {β} (π : Tens → β)
    (hπ : ∀ (x : Tens) b g o vg, π { x with base := b, grad := g, gradObj := o, viewGrad := vg } = π x)
    (h : Heap) (us : List Nat) (parent : Option Nat) : TStep (Keeps π) h (prepInputs h us parent).1 := by
  -- what happens to one input is `startOver` (left over from an earlier graph — a base, no creator — it loses its
  -- base), followed by `nullGrad` unless the op is a view
  have step (b : Option Nat) (hh : Heap) (v : Nat) :
      TStep (Keeps π) hh (if b.isNone then nullGrad (startOver hh v) v else startOver hh v) := by
    have s1 := startOver_step π (fun x => hπ x none x.grad x.gradObj x.viewGrad) hh v
    split
    · exact s1.trans (.modT _ _ fun x => hπ x x.base none x.gradObj none)
    · exact s1
  unfold prepInputs
  simp only
  split
  · exact .foldl _ (step none) us h
  · refine .trans ?_ (.foldl _ (step _) us _)
    split
    · dsimp only
      exact (gradPropObj_step π (fun x vg => hπ x x.base x.grad x.gradObj vg) _ h _).trans
        (.modT _ _ fun x => hπ x none _ _ none)
    · exact .refl h

end MG.Eng
