import MG.Proofs.Lemmas.OpStep
/-!
The recorded graph stays acyclic and well-scoped under `Tensor._op`: every heap built from leaves by
(non-in-place) operations has a rank function that strictly decreases from an op's output to each of
its inputs.  This discharges the acyclicity hypothesis of C01/C07 for all such programs.
-/
namespace MG.Eng
open MG.ND

/-- ids in scope: creators point at allocated ops, ops mention allocated tensors only, and only
allocated tensors have creators -/
structure Scoped (h : Heap) : Prop where
  vars : ∀ f v, v ∈ (h.op f).vars → v < h.next
  tens : ∀ t f, (h.t t).creator = some f → t < h.next ∧ f < h.next

/-- acyclic: a rank that strictly decreases from every op output to each of its inputs -/
def Acyclic (h : Heap) : Prop :=
  ∃ rank : Nat → Nat, ∀ t f v, (h.t t).creator = some f → v ∈ (h.op f).vars → rank v < rank t

def maxRank (rank : Nat → Nat) : List Nat → Nat
  | [] => 0
  | v :: vs => max (rank v) (maxRank rank vs)

theorem le_maxRank (rank : Nat → Nat) (vs : List Nat) (v : Nat) (hv : v ∈ vs) : rank v ≤ maxRank rank vs := by
  induction vs with
  | nil => simp at hv
  | cons w ws ih =>
    simp only [maxRank]
    rcases List.mem_cons.mp hv with rfl | h'
    · omega
    · have := ih h'; omega

/-- recording a new op whose output is a fresh tensor `o`, created by a fresh op `f` over existing
tensors, keeps the graph acyclic and well-scoped -/
theorem acyclic_extend (h h' : Heap) (f o : Nat) (vars : List Nat)
    (hs : Scoped h) (ha : Acyclic h)
    (hf : h.next ≤ f) (ho : h.next ≤ o) (hfo : f < h'.next ∧ o < h'.next)
    (hvars : ∀ v ∈ vars, v < h.next)
    (hcr_o : (h'.t o).creator = some f)
    (hcr : ∀ t, t ≠ o → (h'.t t).creator = (h.t t).creator)
    (hop_f : (h'.op f).vars = vars)
    (hop : ∀ g, g ≠ f → h'.op g = h.op g) :
    Scoped h' ∧ Acyclic h' := by
  obtain ⟨rank, hr⟩ := ha
  -- the variables of every op of `h'` are old tensors, hence different from `o`
  have hold (g v : Nat) (hv : v ∈ (h'.op g).vars) : v < h.next := by
    by_cases hg : g = f
    · exact hvars v (hop_f ▸ hg ▸ hv)
    · exact hs.vars g v (hop g hg ▸ hv)
  refine ⟨⟨fun g v hv => by have := hold g v hv; omega, fun t g hc => ?_⟩,
    fun t => if t = o then maxRank rank vars + 1 else rank t, fun t g v hc hv => ?_⟩
  · by_cases ht : t = o
    · subst ht; rw [hcr_o] at hc; cases hc; exact hfo.symm
    · have := hs.tens t g (hcr t ht ▸ hc); omega
  · have hvo : v ≠ o := by have := hold g v hv; omega
    by_cases ht : t = o
    · subst ht
      rw [hcr_o] at hc
      cases hc
      have := le_maxRank rank vars v (hop_f ▸ hv)
      simp only [hvo, if_false, if_true]
      omega
    · rw [hcr t ht] at hc
      have hgf : g ≠ f := by have := (hs.tens t g hc).2; omega
      simp only [ht, hvo, if_false]
      exact hr t g v hc (hop g hgf ▸ hv)

/-- a step that keeps every creator and op record, and at most draws ids, keeps the graph well-scoped and acyclic -/
theorem scoped_acyclic_mono {h h' : Heap} (hs : Scoped h) (ha : Acyclic h)
    (hc : ∀ t, (h'.t t).creator = (h.t t).creator) (ho : ∀ f, h'.op f = h.op f) (hn : h.next ≤ h'.next) :
    Scoped h' ∧ Acyclic h' := by
  obtain ⟨rank, hr⟩ := ha
  refine ⟨⟨fun f v hv => ?_, fun t f hcr => ?_⟩, rank, fun t f v hcr hv => hr t f v (hc t ▸ hcr) (ho f ▸ hv)⟩
  · have := hs.vars f v (ho f ▸ hv); omega
  · have := hs.tens t f (hc t ▸ hcr); omega

/-- a leaf, or a wrapped literal: a new array and a new creator-less tensor on top of it -/
theorem acyclic_mkLeaf (h : Heap) (v : Val) (c : Bool) (hs : Scoped h) (ha : Acyclic h) :
    Scoped (mkLeaf h v c).1 ∧ Acyclic (mkLeaf h v c).1 := by
  refine scoped_acyclic_mono hs ha (fun t => ?_) (fun _ => rfl) (Nat.le_add_right h.next 2)
  by_cases ht : t = h.next + 1
  · -- an id that has not been drawn yet has no creator
    subst ht
    rw [mkLeaf_t]
    cases hc : (h.t (h.next + 1)).creator with
    | none => rfl
    | some f => have := (hs.tens _ f hc).1; omega
  · exact congrArg Tens.creator (t_setT_ne _ _ _ _ ht)

/-- wrapping the literals keeps the graph well-scoped and acyclic, and every operand is then a tensor in scope -/
theorem wrapOperands_spec (inputs : List Operand) (h : Heap) (hs : Scoped h) (ha : Acyclic h)
    (hin : ∀ i, Operand.t i ∈ inputs → i < h.next) :
    Scoped (wrapOperands h inputs).1 ∧ Acyclic (wrapOperands h inputs).1 ∧
    ∀ v ∈ (wrapOperands h inputs).2, v < (wrapOperands h inputs).1.next := by
  induction inputs generalizing h with
  | nil => exact ⟨hs, ha, fun v hv => nomatch hv⟩
  | cons x xs ih =>
    cases x with
    | t i =>
      obtain ⟨s, a, b⟩ := ih h hs ha fun j hj => hin j (List.mem_cons_of_mem _ hj)
      exact ⟨s, a, List.forall_mem_cons.mpr
        ⟨Nat.lt_of_lt_of_le (hin i (List.mem_cons_self ..)) (wrap_ext xs h).next, b⟩⟩
    | lit v =>
      rw [wrapOperands_lit]
      obtain ⟨hs', ha'⟩ := acyclic_mkLeaf h v true hs ha
      obtain ⟨s, a, b⟩ := ih _ hs' ha' fun j hj => Nat.lt_add_right 2 (hin j (List.mem_cons_of_mem _ hj))
      exact ⟨s, a, List.forall_mem_cons.mpr
        ⟨Nat.lt_of_lt_of_le (Nat.lt_succ_self _) (wrap_ext xs (mkLeaf h v true).1).next, b⟩⟩

/-- **acyclic_opStep.**  `Tensor._op` keeps the recorded graph well-scoped and acyclic. -/
theorem acyclic_opStep (h : Heap) (kind : Kind) (inputs : List Operand) (constant : Option Bool)
    (wm : Option (Shape × List Bool)) (h' : Heap) (o : Nat)
    (hs : Scoped h) (ha : Acyclic h) (hin : ∀ i, Operand.t i ∈ inputs → i < h.next)
    (hok : opStep h kind inputs constant wm = .ok (h', o)) :
    Scoped h' ∧ Acyclic h' ∧ o < h'.next ∧ h.next ≤ h'.next := by
  obtain ⟨ws, wa, wv⟩ := wrapOperands_spec inputs h hs ha hin
  have wn := (wrap_ext inputs h).next
  obtain ⟨hh, outArr, parent, us, hfwd, hrec⟩ := opStep_ok hok
  -- the forward pass at most allocates an array
  obtain ⟨ef, et⟩ := forwardOp_ext hfwd
  have hn2 := ef.next
  obtain ⟨hs2, ha2⟩ := scoped_acyclic_mono ws wa (fun t => congrArg Tens.creator (et t))
    (fun f => by simp only [Heap.op, ef.ops]) hn2
  obtain ⟨f, b, r1, r2, r3, -, r5, r6, r7, r8⟩ :=
    recordOp_spec (·.creator) (fun _ _ _ _ _ _ _ => rfl) hh kind _ us _ constant wm outArr parent
  rw [hrec] at r2 r3 r5 r6 r7 r8
  simp only at r2 r3 r5 r6 r7 r8
  have := acyclic_extend hh h' f o (wrapOperands h inputs).2 hs2 ha2 r1 (by omega) ⟨by omega, r3⟩
    (fun v hv => by have := wv v hv; omega) r7 r8 r5 r6
  exact ⟨this.1, this.2, r3, by omega⟩

theorem scoped_empty : Scoped ({} : Heap) ∧ Acyclic ({} : Heap) := by
  have hd : ∀ t, (({} : Heap).t t).creator = none := fun _ => rfl
  have ho : ∀ f, (({} : Heap).op f).vars = [] := fun _ => rfl
  refine ⟨⟨fun f v hv => ?_, fun t f hc => ?_⟩, ⟨fun _ => 0, fun t f v hc _ => ?_⟩⟩
  · rw [ho] at hv; simp at hv
  · rw [hd] at hc; cases hc
  · rw [hd] at hc; cases hc

end MG.Eng
