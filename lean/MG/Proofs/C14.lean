import MG.Proofs.Lemmas.BackLoop
import MG.Proofs.Lemmas.Frame
/-!
# C14 — seeding `backward` and the shape of every stored gradient

Property theorems about the engine model.  The dtype clause of the property is not expressible in
the `Int`-valued model and is decided by the direct predicate of `harness/props/c14.py`.
-/
namespace MG.C14
open MG.Eng MG.ND

/-- **seed_none_is_vjp_of_sum.**  `L.backward()` seeds `L` with exactly what `L.sum().backward()`
sends to `L`: the VJP of `sum` (all axes) applied to the scalar seed `1`. -/
theorem seed_none_is_vjp_of_sum (h : Heap) (L : Nat) (kd : Bool) :
    vjp h { kind := .sum none kd, vars := [L] } 0 ([], [1]) = seedVal (shapeOf h L) .none := by
  simp [vjp, seedVal, shapeOf, Heap.val]

/-- **seed_rule.**  `L.backward(g)`: a well-formed `g` of `L`'s shape is used as it is; any other
`g` is broadcast to `L`'s shape if (and only if) it can be broadcast *to* that shape; everything
else is rejected with a `ValueError`. -/
theorem seed_rule (sh : Shape) (v : Val) (hwf : v.2.length = size v.1) :
    (v.1 = sh → seedVal sh (.val v) = .ok v) ∧
    (v.1 ≠ sh → broadcastableTo v.1 sh = true → seedVal sh (.val v) = broadcastVal v sh) ∧
    (v.1 ≠ sh → broadcastableTo v.1 sh = false → seedVal sh (.val v) = .error .valueError) := by
  refine ⟨fun he => ?_, fun hne hb => ?_, fun hne hb => ?_⟩
  · simp [seedVal, hwf, he]
  · simp [seedVal, hwf, hne, broadcastVal, hb]
  · simp [seedVal, hwf, hne, broadcastVal, hb]

/-- a broadcast seed has `L`'s shape and element count -/
theorem seed_shape (sh : Shape) (seed : Seed) (g : Val) (hs : seedVal sh seed = .ok g) :
    g.1 = sh ∧ g.2.length = size sh := by
  revert hs
  fun_cases seedVal sh seed
  · rintro ⟨⟩; simp
  · rintro ⟨⟩
  · rename_i v hlen he
    rintro ⟨⟩
    exact ⟨he, by rw [← he]; simpa using hlen⟩
  · rename_i v hlen he b hb
    rintro ⟨⟩
    unfold broadcastVal at hb
    split at hb
    · cases hb; simp [broadcastIndex]
    · cases hb
  · rintro ⟨⟩

/-- **bad_seed_rejected_no_write.**  If the seed is rejected, `backward` raises and the heap it leaves
behind has no gradient that was not there before: every tensor's `_grad` is either what it was or
`None` (the traversal nulls the gradients of the tensors it touches before the seed is examined);
no tensor, buffer or op is otherwise changed. -/
theorem bad_seed_rejected_no_write (h : Heap) (L : Nat) (seed : Seed) (e : Err)
    (hL : (h.t L).const = false) (touched topo : List Nat)
    (hcol : collect (startOver h L).fuel (startOver h L) L [] [] = some (touched, topo))
    (hbad : seedVal (h.t L).data.d.shape seed = .error e) :
    ∃ h', backward h L seed = .error (e, h') ∧ h'.bufs = h.bufs ∧ h'.ops = h.ops ∧
      ∀ t, (h'.t t).grad = none ∨ (h'.t t).grad = (h.t t).grad := by
  have s1 := startOver_step (·.grad) (fun _ => rfl) h L
  -- observed through the trivial `π`: of this step only `bufs` and `ops` are wanted
  have s2 := nullGrads_step (fun _ => ()) (fun _ => rfl) touched (startOver h L)
  refine ⟨_, by simp [backward, hL, hcol, hbad], s2.bufs.trans s1.bufs, s2.ops.trans s1.ops, fun t => ?_⟩
  refine (List.foldlRecOn (motive := fun hh : Heap => (hh.t t).grad = none ∨ (hh.t t).grad = (h.t t).grad)
    touched _ (.inr (s1.t t)) fun hh ih x _ => ?_)
  by_cases e : t = x
  · subst e; exact .inl (by rw [t_modT_self])
  · rwa [t_modT_ne _ _ _ _ e]

/-- **stored_grads_have_tensor_shape.**  When the back-propagation loop completes, every gradient it
has accumulated — for every tensor, whatever mixture of broadcasting, where-masks, views and
repeated use produced its contributions — has exactly that tensor's shape and element count. -/
theorem stored_grads_have_tensor_shape (h : Heap) (L : Nat) (g : Val) (topo : List Nat) (gr : GMap)
    (hn : topo.Nodup) (hg : g.1 = shapeOf h L ∧ g.2.length = size (shapeOf h L))
    (hrun : backLoop h topo [(L, g)] = (gr, none)) :
    ∀ t v, lookup t gr = some v → v.1 = shapeOf h t ∧ v.2.length = size (shapeOf h t) := by
  have hw := backLoop_wfg h topo [(L, g)] (wfg_seed h L g hg)
  rwa [hrun] at hw

theorem startOver_graphless (h : Heap) (L : Nat) (hcr : (h.t L).creator = none) :
    ((startOver h L).t L).base = none := by
  unfold startOver
  cases hbb : (h.t L).base with
  | none => simp [hbb]
  | some b => simp [hcr]

theorem clearGraph_graphless (h : Heap) (L : Nat) (hb : (h.t L).base = none) (hcr : (h.t L).creator = none) :
    clearGraph h.fuel h L = h.modT L (fun x => { x with vchildren := [], ops := [] }) := by
  simp [Heap.fuel, clearGraph, hb, hcr]

/-- **seeded_graphless_terminal.**  `backward(seed)` on a non-constant tensor that has no creator — a leaf, or a
former view whose graph an earlier `backward` cleared while its base lingers — completes, stores the (broadcast)
seed as that tensor's gradient and leaves it without a base, so that its public `.grad` *is* the seed: the same
gradient `(L*g).sum().backward()` gives it. -/
theorem seeded_graphless_terminal (h : Heap) (L : Nat) (seed : Seed) (g : Val)
    (hc : (h.t L).const = false) (hcr : (h.t L).creator = none)
    (hs : seedVal (h.t L).data.d.shape seed = .ok g) :
    ∃ h', backward h L seed = .ok h' ∧ (h'.t L).base = none ∧ (h'.t L).grad = some g ∧
      (gradProp h'.fuel h' L).2 = some g := by
  have hb1 := startOver_graphless h L hcr
  have hc1 : ((startOver h L).t L).const = false := by simp [hc]
  have hcr1 : ((startOver h L).t L).creator = none := by simp [hcr]
  -- the traversal finds `L` alone, the loop is skipped, the seed is stored, and `clear_graph` has nothing to descend into
  have hcol : collect (startOver h L).fuel (startOver h L) L [] [] = some ([L], [L]) := by
    simp [Heap.fuel, collect, hc1, Heap.inp, hcr1]
  simp only [backward, hc, Bool.false_eq_true, if_false, hcol, hs, List.foldl_cons, List.foldl_nil, backwardGrads,
    t_modT_self, hcr1, Option.isNone_none, if_true, storeGrads]
  rw [clearGraph_graphless _ L (by simp [hb1]) (by simp [hcr1])]
  refine ⟨_, rfl, by simp [hb1], by simp, ?_⟩
  rw [gradProp_of_base_none _ L (by simp [hb1])]
  simp

/-! ## Non-vacuity -/

/-- a former view (base `0` lingers, no creator) of shape (2,) seeded with a scalar-shaped array -/
example :
    let h : Heap := (({} : Heap).setT 0 { data := ⟨0, Desc.contig 0 [4]⟩, const := false }).setT 1
      { data := ⟨0, ⟨0, [2], [2]⟩⟩, const := false, base := some 0 }
    (h.t 1).const = false ∧ (h.t 1).creator = none ∧ (h.t 1).base = some 0 ∧
      seedVal (h.t 1).data.d.shape (.val ([1], [3])) = .ok ([2], [3, 3]) := by decide

example : seedVal [2, 3] (.val ([3], [1, 2, 3])) = .ok ([2, 3], [1, 2, 3, 1, 2, 3]) := by decide
example : seedVal [2, 3] (.val ([2], [1, 2])) = .error .valueError := by decide
example : seedVal [2] (.val ([3, 2], [1, 2, 3, 4, 5, 6])) = .error .valueError := by decide

end MG.C14
