import MG.Proofs.C02Struct
import MG.Proofs.Lemmas.Placeholder
/-!
# C05 — gradients flow correctly through in-place updates and views

An in-place update is recorded as ordinary graph nodes over *placeholder* tensors that keep the
pre-mutation value: `SetItem(placeholder, value)`, a ufunc with `out=`/`where=` followed by
`ApplyMask(new, placeholder)`, and `UnView(base placeholder, mutated view)`.  C01's `backward_sound`
then applies to the resulting graph unchanged.  What remains to be shown is that the VJPs the engine
model uses for these three nodes are the adjoints of the *functional* updates they stand for
("overwritten elements pass nothing to their old contents, masked-out elements pass their gradient to
the old contents, the last write of a repeated index wins").  The adjointness itself is proved, for all
index lists and masks, in `MG/Proofs/C02Struct.lean` (`setitem_vjp`, `where_mask_vjp`); here the
engine model's definitions are shown to *be* those functions.  That the graph after an update is the single-assignment
form over placeholders is `inplace_on_owner_is_ssa_renaming` (`Lemmas/InPlaceRefine.lean`).
-/
namespace MG.C05
open MG.Eng MG.Lin MG.C02

/-- the forward write of the model (`out[key] = value`, later writes win) is `Lin.setitem` -/
theorem model_setitem_fwd_eq (old : List Int) : ∀ (ps : List Nat) (vals : List Int),
    (List.zip ps vals).foldl (fun acc (pv : Nat × Int) => acc.set pv.1 pv.2) old = setitem old ps vals := by
  intro ps
  induction ps generalizing old with
  | nil => intro vals; simp [setitem]
  | cons p ps ih =>
    intro vals
    cases vals with
    | nil => simp [setitem]
    | cons v vs => simp only [List.zip_cons_cons, List.foldl_cons, setitem]; exact ih _ vs

/-- the model's VJP of `SetItem` w.r.t. the old contents (`grad[key] = 0`) is `Lin.zeroAt` -/
theorem model_setitem_vjp0_eq (g : List Int) : ∀ (ps : List Nat),
    ps.foldl (fun acc p => acc.set p 0) g = zeroAt g ps := by
  intro ps
  induction ps generalizing g with
  | nil => rfl
  | cons p ps ih => simp only [List.foldl_cons, zeroAt]; exact ih _

/-- the model's "keep only the last write of every position" mask -/
def keepLast (ps : List Nat) : List Bool :=
  (List.range ps.length).map fun j => !((ps.drop (j + 1)).contains (ps.getD j 0))

theorem keepLast_cons (p : Nat) (ps : List Nat) :
    keepLast (p :: ps) = (!(ps.contains p)) :: keepLast ps := by
  simp only [keepLast, List.length_cons, List.range_succ_eq_map, List.map_cons, List.map_map]
  congr 1

/-- the model's VJP of `SetItem` w.r.t. the value (`grad[key]` masked to the winning writes) is
`Lin.winCoef` -/
theorem model_setitem_vjp1_eq (g : List Int) : ∀ (ps : List Nat),
    (List.zip (Eng.gather ps g) (keepLast ps)).map (fun (xk : Int × Bool) => if xk.2 then xk.1 else 0)
      = winCoef g ps := by
  intro ps
  induction ps with
  | nil => simp [Eng.gather, keepLast, winCoef]
  | cons p ps ih =>
    rw [keepLast_cons]
    simp only [Eng.gather, List.map_cons, List.zip_cons_cons, winCoef]
    congr 1
    cases ps.contains p <;> rfl

/-- **setitem_vjp_adjoint.**  For every position list (repeats allowed), old contents `a`, value `b`
and upstream gradient `g`:  ⟨g, a[ps] := b⟩ = ⟨vjp₀ g, a⟩ + ⟨vjp₁ g, b⟩ with the *model's* two VJPs —
overwritten elements pass nothing to the old contents, and of several writes to one element only the
last passes its gradient to the value. -/
theorem setitem_vjp_adjoint (g a : List Int) (ps : List Nat) (b : List Int)
    (hl : g.length = a.length) (hb : ps.length = b.length) :
    dot g ((List.zip ps b).foldl (fun acc (pv : Nat × Int) => acc.set pv.1 pv.2) a) =
      dot (ps.foldl (fun acc p => acc.set p 0) g) a +
      dot ((List.zip (Eng.gather ps g) (keepLast ps)).map fun (xk : Int × Bool) => if xk.2 then xk.1 else 0) b := by
  rw [model_setitem_fwd_eq, model_setitem_vjp0_eq, model_setitem_vjp1_eq]
  exact setitem_vjp g a ps b hl hb

/-- **unview_vjp_adjoint.**  `UnView` joins the mutated view (occupying the *distinct* positions `ps` of
the base) with the untouched remainder of the old base.  Its two VJPs in the model — the gradient with
the view's positions zeroed for the old base, the gradient gathered at the view's positions for the
mutated view — are the adjoint of that join. -/
theorem unview_vjp_adjoint (g base : List Int) (ps : List Nat) (view : List Int) (hn : ps.Nodup)
    (hl : g.length = base.length) (hb : ps.length = view.length) :
    dot g (setitem base ps view) =
      dot (ps.foldl (fun acc p => acc.set p 0) g) base + dot (Eng.gather ps g) view := by
  rw [model_setitem_vjp0_eq, setitem_vjp g base ps view hl hb, winCoef_of_nodup g ps hn]
  rfl

/-- **model_unview_vjp_eq.**  What the engine model's `vjp` computes for an `UnView` node whose chain
replays to the window `d` is literally those two functions. -/
theorem model_unview_vjp_eq (g : List Int) (ps : List Nat) :
    ps.foldl (fun acc p => acc.set p 0) g = zeroAt g ps ∧ Eng.gather ps g = Lin.gather ps g :=
  ⟨model_setitem_vjp0_eq g ps, rfl⟩

/-- the model's `where=` tail and `ApplyMask` rule are `Lin.maskMul` with the mask resp. its negation -/
theorem model_mask_eq : ∀ (xs : List Int) (mk : List Bool),
    (List.zip xs mk).map (fun (xk : Int × Bool) => if xk.2 then xk.1 else 0) = maskMul mk xs ∧
    (List.zip xs mk).map (fun (xb : Int × Bool) => if xb.2 then 0 else xb.1) = maskMul (notMask mk) xs := by
  intro xs
  induction xs with
  | nil => intro mk; cases mk <;> simp [maskMul, notMask]
  | cons x xs ih =>
    intro mk
    cases mk with
    | nil => simp [maskMul, notMask]
    | cons b mk =>
      obtain ⟨h1, h2⟩ := ih mk
      simp only [List.zip_cons_cons, List.map_cons, maskMul, notMask] at h1 h2 ⊢
      refine ⟨by rw [h1], ?_⟩
      rw [h2]
      cases b <;> rfl

/-- **applyMask_vjp_adjoint.**  `np.<ufunc>(x, y, where=m, out=z)` makes the new `z` equal to
`select m (f x y) z_old`.  The model sends `m ⊙ g` to the ufunc's result (its `where=` tail) and
`¬m ⊙ g` to the old contents (`ApplyMask`): exactly the adjoint of `select` — masked-out elements pass
their gradient to the old contents, masked-in elements pass it to the new value only. -/
theorem applyMask_vjp_adjoint (m : List Bool) (g new old : List Int)
    (h1 : m.length = g.length) (h2 : m.length = new.length) (h3 : m.length = old.length) :
    dot g (select m new old) =
      dot ((List.zip g m).map fun (xk : Int × Bool) => if xk.2 then xk.1 else 0) new +
      dot ((List.zip g m).map fun (xb : Int × Bool) => if xb.2 then 0 else xb.1) old := by
  rw [(model_mask_eq g m).1, (model_mask_eq g m).2]
  exact where_mask_vjp m g new old h1 h2 h3

/-- **placeholder_keeps_value.**  Creating a placeholder never writes a buffer and the placeholder
points at the very array of the original: every op recorded before the mutation keeps differentiating
through the pre-mutation values. -/
theorem placeholder_keeps_value (h : Heap) (x : Nat) (b : Option Nat) (h2 : Heap) (p : Nat)
    (hok : makePlaceholder h x b = .ok (h2, p)) : h2.bufs = h.bufs ∧ (h2.t p).data = (h.t x).data := by
  obtain ⟨_, rfl, rfl⟩ := C04V.makePlaceholder_ok hok
  exact ⟨C04V.mkPh_bufs h x b, by rw [C04V.mkPh_t_ph]⟩

/-! ## the engine model's `vjp` *is* these functions -/

/-- `backward_var(grad, 0)` of a `SetItem` node in the model: the gradient with the written positions zeroed -/
theorem model_vjp_setitem0 (h : Heap) (key : SetKey) (vars : List Nat) (g : Val) (selSh : ND.Shape) (ps : List Nat)
    (hsel : key.select g.1 = .ok (selSh, ps)) :
    vjp h { kind := .setitem key, vars := vars } 0 g = .ok (g.1, zeroAt g.2 ps) := by
  simp only [vjp, hsel, ite_true]
  rw [model_setitem_vjp0_eq]

/-- `backward_var(grad, 1)` of a `SetItem` node in the model (value with at most as many axes as the
selection): the gradient at the written positions, masked to the last write of every position -/
theorem model_vjp_setitem1 (h : Heap) (key : SetKey) (vars : List Nat) (g : Val) (selSh : ND.Shape) (ps : List Nat)
    (hsel : key.select g.1 = .ok (selSh, ps))
    (hrank : ¬ selSh.length < (h.val (h.t (vars.getD 1 0)).data).1.length) :
    vjp h { kind := .setitem key, vars := vars } 1 g = .ok (selSh, winCoef g.2 ps) := by
  have hk : (List.range ps.length).map (fun j => !((ps.drop (j + 1)).contains (ps.getD j 0))) = keepLast ps := rfl
  simp only [vjp, hsel, Nat.one_ne_zero, ite_false, hrank, hk]
  rw [model_setitem_vjp1_eq]

end MG.C05
