import MG.Proofs.C01
import MG.Core.InPlace
/-!
# C09 — backprop through a partially cleared graph fails loudly, never silently

The full statement is **false of the unchanged code**; it is kept as `stale_backward_statement`,
refuted by `stale_backward_neg` from a concrete 8-statement history evaluated in the engine model
(the harness replays the same history on MyGrad), and proved in part.
-/
namespace MG.C09
open MG.Eng MG.ND

/-- a non-constant leaf tensor (`mg.tensor(v)`): fresh buffer, fresh creator-less tensor -/
def leaf (h : Heap) (v : Val) : Heap × Nat :=
  let (h, a) := h.newArr v
  let (h, t) := h.fresh
  (h.setT t { data := a, const := false }, t)

/-- The history
`x = tensor([1,2]); y = x*2; z1 = y+1; z2 = y*y; z1.backward(); y[...] = 10; w = y*5; z2.backward()`.
Returns what the final `backward` produced: `none` if it raised, else `y.grad`. -/
def witness : Option (Option Val) :=
  let (h, x) := leaf {} ([2], [1, 2])
  match opStep h .mul [.t x, .lit ([], [2])] with
  | .error _ => none
  | .ok (h, y) =>
  match opStep h .add [.t y, .lit ([], [1])] with
  | .error _ => none
  | .ok (h, z1) =>
  match opStep h .mul [.t y, .t y] with
  | .error _ => none
  | .ok (h, z2) =>
  match backward h z1 .none with
  | .error _ => none
  | .ok h =>
  match inPlaceOp h [x, y, z1, z2] y (.setitem (.basic [.ellipsis])) [.t y, .lit ([], [10])] with
  | .error _ => none
  | .ok h =>
  match opStep h .mul [.t y, .lit ([], [5])] with
  | .error _ => none
  | .ok (h, w) =>
  match backward h z2 .none with
  | .error _ => some none
  | .ok h => some (gradProp h.fuel h y).2

/-- what the recorded forward computation `z2 = y*y` (with `y = [2,4]` at the time) gives: `2*y` -/
def recordedGrad : Val := ([2], [4, 8])

/-- **The full statement** (for this history): the final `backward` raises `InvalidBackprop`, or
`y.grad` is the gradient of the forward computation as it was recorded. -/
def stale_backward_statement : Prop :=
  witness = some none ∨ witness = some (some recordedGrad)

theorem witness_value : witness = some (some ([2], [20, 20])) := by decide

/-- **stale_backward_neg.**  In the model — as in the implementation — the final `backward` of the
history neither raises nor returns the recorded gradient: it silently returns `[20, 20]`, computed
from the value `y` was mutated to after `z2` had been computed. -/
theorem stale_backward_neg : ¬ stale_backward_statement := by
  rw [stale_backward_statement, witness_value]
  decide

/-- **cleared_input_raises.**  The detector the code has: an op one of whose non-constant inputs has an
empty consumer set makes `backward` raise `InvalidBackprop` at that input, before any VJP is taken. -/
theorem cleared_input_raises (h : Heap) (o : OpRec) (g : Val) (gr : GMap) (i : Nat)
    (hnc : (h.t (o.vars.getD i 0)).const = false) (hempty : (h.t (o.vars.getD i 0)).ops = []) :
    opBackwardVar h o g gr i = .error .invalidBackprop := by
  simp only [opBackwardVar, hnc, hempty, List.isEmpty_nil, Bool.false_eq_true, ite_false, ite_true]

/-- **stale_backward_safe_partial.**  Whenever the back-propagation loop does run to completion on an
acyclic heap, what it returns is exactly the adjoint solution of the graph *as the heap records it at
that moment* (C01).  So the only way to obtain gradients of anything other than the recorded forward
computation is for the heap itself to be inconsistent — an op whose recorded input no longer holds the
value it was computed from — which is precisely what re-use after clearing produces
(`stale_backward_neg`) and what the harness's forward-value tape detects on the implementation. -/
theorem stale_backward_safe_partial (h : Heap) (L : Nat) (g : Val) (rank : Nat → Nat)
    (hdag : ∀ t, ∀ v ∈ h.inp t, rank v < rank t) (hfuel : rank L < h.fuel)
    (hL : (h.t L).const = false)
    (hg : g.1 = shapeOf h L ∧ g.2.length = size (shapeOf h L))
    (touched topo : List Nat) (hcol : collect h.fuel h L [] [] = some (touched, topo))
    (gr : GMap) (err : Option Err) (hrun : backLoop h topo [(L, g)] = (gr, err)) :
    err = some .invalidBackprop ∨ err ≠ none ∨
      MG.Adj.IsAdj (edges h topo) (MG.C01.seedFn L g) (absG gr) := by
  cases err with
  | some e => exact Or.inr (Or.inl (by simp))
  | none =>
    exact Or.inr (Or.inr (MG.C01.backward_sound h L g rank hdag hfuel hL hg touched topo hcol gr hrun).1)

end MG.C09
