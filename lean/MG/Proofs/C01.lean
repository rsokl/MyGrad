import MG.Proofs.Lemmas.Collect
import MG.Proofs.Lemmas.BackLoop
import MG.Proofs.Lemmas.Acyclic
/-!
# C01 — `backward()` yields the exact total derivative of the recorded computation

The property theorems, over `Lemmas/Collect.lean` (the DFS order), `Lemmas/Adjoint.lean` (reverse accumulation
over an edge list), `Lemmas/BackLoop.lean` (the loop refines it) and `Lemmas/Acyclic.lean` (programs build acyclic
heaps).  The model is `MG/Core/Engine.lean` (tied to `/repo` by the correspondence in `harness/props/c01.py`).

Reading.  The *declarative* meaning of "derivative of sum(L·seed) w.r.t. x, summed over every
path" on a recorded graph is the unique solution `adj` of the adjoint equations

    adj x = seed x + Σ_{edges e : consumer c ─▶ x} vjp_e (adj c)

(one edge per occurrence of `x` among the operands of an op whose output is upstream of `L`;
repeated use, fan-out, diamonds and broadcasting are just several edges / the reduce step of the
edge's VJP).  `backward_sound` says the engine computes exactly that solution; that each VJP is the
transpose of the op's derivative is C02's business.
-/
namespace MG.C01
open MG.Eng MG.Adj MG.ND

/-- the seed as a gradient assignment: `g` at `L`, nothing elsewhere -/
def seedFn (L : Nat) (g : Val) : Nat → GF := fun t => if t = L then toFn g else 0

/-- every edge read off the heap, over an order of non-constant tensors, goes from a node of the order to one of
the inputs the DFS descends into from it -/
theorem edge_mem (h : Heap) (topo : List Nat) (hnc : ∀ x ∈ topo, (h.t x).const = false) (e : Edge GF)
    (he : e ∈ edges h topo) : e.c ∈ topo ∧ e.t ∈ h.inp e.c ∧ (h.t e.t).const = false := by
  obtain ⟨c, hc, hec⟩ := List.mem_flatMap.mp he
  obtain ⟨f, i, hcr, hi, hconst, rfl⟩ := mem_edgesOfNode hec
  refine ⟨hc, mem_inp.mpr ⟨hnc c hc, f, hcr, ?_⟩, hconst⟩
  show (h.op f).vars.getD i 0 ∈ (h.op f).vars
  rw [List.getD_eq_getElem?_getD, List.getElem?_eq_getElem hi]
  exact List.getElem_mem _

/-- in a duplicate-free list whose tail `R` is `Ordered`, the members of `R` come consumers-first for any edges that
go from a tensor to non-constant inputs of it: such an input lies further down `R`, hence neither before nor at its
consumer -/
theorem consumersFirst_of_ordered (h : Heap) (es : List (Edge GF))
    (hes : ∀ e ∈ es, e.t ∈ h.inp e.c ∧ (h.t e.t).const = false) {R : List Nat} (ho : Ordered h R) :
    ∀ P : List Nat, (P ++ R).Nodup → ConsumersFirst es P R := by
  induction ho with
  | nil => intro _ _; trivial
  | @cons c B hinp _ ih =>
    intro P hn
    obtain ⟨-, hcB, hdisj⟩ := List.nodup_append.mp hn
    refine ⟨fun hc => hdisj c hc c (List.mem_cons_self ..) rfl, fun e he hec => ?_,
      ih (P ++ [c]) (by simpa using hn)⟩
    have htB : e.t ∈ B := hinp e.t (hec ▸ (hes e he).1) (hes e he).2
    exact ⟨fun htP => hdisj e.t htP e.t (List.mem_cons_of_mem _ htB) rfl,
      fun htc => (List.nodup_cons.mp hcB).1 (htc ▸ htB)⟩

/-- **collect_consumers_first.**  On an acyclic graph the DFS with `appendleft` succeeds and its
result lists `L` and only non-constant tensors, each exactly once, every tensor after all of its
consumers: the order is consumers-first for the heap's edge list. -/
theorem collect_consumers_first (h : Heap) (L : Nat) (rank : Nat → Nat)
    (hdag : ∀ t, ∀ v ∈ h.inp t, rank v < rank t) (hfuel : rank L < h.fuel)
    (hL : (h.t L).const = false) :
    ∃ touched topo, collect h.fuel h L [] [] = some (touched, topo) ∧
      L ∈ topo ∧ topo.Nodup ∧ (∀ x ∈ topo, (h.t x).const = false) ∧
      ConsumersFirst (edges h topo) [] topo ∧ (∀ e ∈ edges h topo, e.c ∈ topo) := by
  obtain ⟨touched, topo, hcol, post⟩ :=
    collect_post h rank hdag h.fuel L [] [] hfuel Ordered.nil List.nodup_nil (by simp)
  have hes := edge_mem h topo post.nonconst
  exact ⟨touched, topo, hcol, post.mem hL, post.nodup, post.nonconst,
    consumersFirst_of_ordered h _ (fun e he => (hes e he).2) post.ord [] post.nodup, fun e he => (hes e he).1⟩

/-- **backward_sound.**  For every acyclic heap, every non-constant terminal tensor `L` and every
seed array `g` of `L`'s shape: if the back-propagation loop runs to completion, the gradient it
leaves on every tensor is *the* solution of the adjoint equations of the recorded graph — the seed
at `L` plus, for every consumer edge, that edge's VJP applied to the consumer's gradient.  There is
exactly one such assignment (`unique`), so the result is determined by the graph alone. -/
theorem backward_sound (h : Heap) (L : Nat) (g : Val) (rank : Nat → Nat)
    (hdag : ∀ t, ∀ v ∈ h.inp t, rank v < rank t) (hfuel : rank L < h.fuel)
    (hL : (h.t L).const = false)
    (hg : g.1 = shapeOf h L ∧ g.2.length = size (shapeOf h L))
    (touched topo : List Nat) (hcol : collect h.fuel h L [] [] = some (touched, topo))
    (gr : GMap) (hrun : backLoop h topo [(L, g)] = (gr, none)) :
    IsAdj (edges h topo) (seedFn L g) (absG gr) ∧
    (∀ adj', IsAdj (edges h topo) (seedFn L g) adj' → ∀ t, adj' t = absG gr t) := by
  obtain ⟨touched', topo', hcol', _, hn, hnc, hcf, hall⟩ :=
    collect_consumers_first h L rank hdag hfuel hL
  rw [hcol] at hcol'
  cases hcol'
  have hseed : absG [(L, g)] = seedFn L g := by
    funext t
    by_cases ht : L = t <;> simp [absG, lookup, seedFn, ht, eq_comm]
  obtain ⟨_, habs⟩ := backLoop_run h topo hn topo [(L, g)] gr (fun x hx => hx) (wfg_seed h L g hg) hrun
  rw [hseed] at habs
  have hadj : IsAdj (edges h topo) (seedFn L g) (absG gr) := by
    rw [habs]
    exact run_isAdj _ _ _ hcf hall
  exact ⟨hadj, fun adj' h' t =>
    isAdj_unique_rank _ _ adj' (absG gr) rank (fun e he => hdag e.c e.t (edge_mem h topo hnc e he).2.1) h' hadj t⟩

/-- **backward_order_independent.**  Processing the tensors in *any* consumers-first order that
covers the graph — i.e. however independent sub-expressions were interleaved — yields the same
gradients as the order the DFS happened to produce; and re-ordering the recorded edges (swapping
commutative operands, permuting siblings) leaves the adjoint solution unchanged. -/
theorem backward_order_independent (h : Heap) (L : Nat) (g : Val) (rank : Nat → Nat)
    (hdag : ∀ t, ∀ v ∈ h.inp t, rank v < rank t) (hfuel : rank L < h.fuel)
    (hL : (h.t L).const = false)
    (hg : g.1 = shapeOf h L ∧ g.2.length = size (shapeOf h L))
    (touched topo : List Nat) (hcol : collect h.fuel h L [] [] = some (touched, topo))
    (gr : GMap) (hrun : backLoop h topo [(L, g)] = (gr, none)) :
    (∀ ord', ConsumersFirst (edges h topo) [] ord' → (∀ e ∈ edges h topo, e.c ∈ ord') →
      run (edges h topo) ord' (seedFn L g) = absG gr) ∧
    (∀ es', (edges h topo).Perm es' → IsAdj es' (seedFn L g) (absG gr)) := by
  obtain ⟨hadj, huniq⟩ := backward_sound h L g rank hdag hfuel hL hg touched topo hcol gr hrun
  refine ⟨fun ord' hcf hall => ?_, fun es' hp => isAdj_perm _ _ hp _ _ hadj⟩
  funext t
  exact huniq _ (run_isAdj _ _ _ hcf hall) t

/-! ## every DAG program yields an acyclic heap: the hypothesis of `backward_sound` is met -/

/-- statements of a (non-in-place) program: create a leaf tensor, or apply an operation to earlier
tensors / ndarrays / scalars -/
inductive Stmt where
  | leaf (v : Val) (constant : Bool)
  | op (kind : Kind) (inputs : List Operand) (constant : Option Bool) (whereMask : Option (Shape × List Bool))

/-- run a program; `none` if a statement raises or mentions a tensor that does not exist -/
def runStmts : Heap → List Stmt → Option Heap
  | h, [] => some h
  | h, .leaf v c :: r => runStmts (mkLeaf h v c).1 r
  | h, .op k ins c wm :: r =>
    if ins.all (fun | .t i => decide (i < h.next) | _ => true) then
      match opStep h k ins c wm with
      | .ok (h', _) => runStmts h' r
      | .error _ => none
    else none

/-- **dag_programs_acyclic.**  Every heap a program of leaf creations and (non-in-place) operations
can build — any length, any sharing, repeated operands, views, constants — is well-scoped and has a
rank that strictly decreases from every op output to each of its inputs. -/
theorem dag_programs_acyclic : ∀ (prog : List Stmt) (h h' : Heap), Scoped h → Acyclic h →
    runStmts h prog = some h' → Scoped h' ∧ Acyclic h' := by
  intro prog h h' hs ha hr
  fun_induction runStmts h prog with
  | case1 h => cases hr; exact ⟨hs, ha⟩
  | case2 h v c r ih =>
    obtain ⟨s, a⟩ := acyclic_mkLeaf h v c hs ha
    exact ih s a hr
  | case3 h k ins c wm r hall h2 o hok ih =>
    obtain ⟨s, a, _, _⟩ := acyclic_opStep h k ins c wm h2 o hs ha
      (fun i hi => by simpa using List.all_eq_true.mp hall (Operand.t i) hi) hok
    exact ih s a hr
  | case4 => cases hr
  | case5 => cases hr

/-- acyclicity in the sense of `backward_sound`'s hypothesis -/
theorem acyclic_inp (h : Heap) (ha : Acyclic h) : ∃ rank : Nat → Nat, ∀ t, ∀ v ∈ h.inp t, rank v < rank t := by
  obtain ⟨rank, hr⟩ := ha
  exact ⟨rank, fun t v hv => let ⟨_, f, hf, hv⟩ := mem_inp.mp hv; hr t f v hf hv⟩

/-- **backward_sound_for_programs.**  For every program of leaf creations and operations (started
from the empty heap), every non-constant tensor `L` of the heap it builds and every seed: if the
back-propagation loop completes, it leaves THE solution of the adjoint equations of the recorded
graph.  (No acyclicity hypothesis: it is an invariant of the program semantics.)  The fuel condition `rank L < h.fuel`
is still a premise, for the rank the conclusion provides: no lemma bounds the ranks `acyclic_extend` builds by
`h.next`, so a caller cannot discharge it from this statement alone. -/
theorem backward_sound_for_programs (prog : List Stmt) (h : Heap) (hrun : runStmts {} prog = some h)
    (L : Nat) (g : Val) (hL : (h.t L).const = false)
    (hg : g.1 = shapeOf h L ∧ g.2.length = size (shapeOf h L)) :
    ∃ rank : Nat → Nat, (∀ t, ∀ v ∈ h.inp t, rank v < rank t) ∧
      ∀ (touched topo : List Nat) (gr : GMap), rank L < h.fuel →
        collect h.fuel h L [] [] = some (touched, topo) → backLoop h topo [(L, g)] = (gr, none) →
        IsAdj (edges h topo) (seedFn L g) (absG gr) ∧
        ∀ adj', IsAdj (edges h topo) (seedFn L g) adj' → ∀ t, adj' t = absG gr t := by
  obtain ⟨_, ha⟩ := dag_programs_acyclic prog {} h scoped_empty.1 scoped_empty.2 hrun
  obtain ⟨rank, hr⟩ := acyclic_inp h ha
  exact ⟨rank, hr, fun touched topo gr hfuel hcol hloop =>
    backward_sound h L g rank hr hfuel hL hg touched topo hcol gr hloop⟩

end MG.C01
