import MG.Proofs.Lemmas.BackLoop
import MG.Proofs.Lemmas.OpStep
/-!
# C10 — constant semantics: constants never receive or transmit gradients

Property theorems about the engine model (`MG/Core/Engine.lean`).  The dtype gate (integer and
boolean tensors are always constant) is part of the construction lattice of C17 (`MG/Core/Dtype.lean`).
That an explicit `constant=` passed with an in-place update changes nothing (`inplace_ignores_explicit_constant`)
stands with the stages of `_in_place_op`, in `Lemmas/InPlaceSteps.lean`.
-/
namespace MG.C10
open MG.Eng

/-- **op_constant_rule.**  The flag of an op's result: a flag passed by the caller always wins;
otherwise the result is constant exactly when every input (tensors, and the ndarrays / scalars that
were wrapped as constant tensors) is constant. -/
theorem op_constant_rule (h : Heap) (vars : List Nat) :
    (∀ c, resultConst (some c) h vars = c) ∧
    (resultConst none h vars = true ↔ ∀ v ∈ vars, (h.t v).const = true) := by
  refine ⟨fun c => rfl, ?_⟩
  simp only [resultConst, Bool.not_eq_true', List.any_eq_false]
  constructor
  · intro hh v hv
    simpa using hh v hv
  · intro hh v hv
    simpa using hh v hv

/-- non-tensor operands are wrapped as *constant* tensors: every id `wrapOperands` adds is constant -/
theorem wrapped_literals_are_constant (v : Val) (h : Heap) :
    let r := wrapOperands h [.lit v]
    ∀ i ∈ r.2, (r.1.t i).const = true := by
  intro r i hi
  simp only [r, wrapOperands, List.mem_singleton] at hi ⊢
  subst hi
  simp

/-- **opStep_result_flag.**  The tensor `Tensor._op` returns carries exactly the flag `resultConst`
computes from the caller's `constant=` argument and the (wrapped) inputs. -/
theorem opStep_result_flag (h : Heap) (kind : Kind) (inputs : List Operand) (constant : Option Bool)
    (wm : Option (ND.Shape × List Bool)) (h' : Heap) (o : Nat)
    (hok : opStep h kind inputs constant wm = .ok (h', o)) :
    (h'.t o).const = resultConst constant (wrapOperands h inputs).1 (wrapOperands h inputs).2 := by
  obtain ⟨hh, outArr, parent, us, -, hrec⟩ := opStep_ok hok
  obtain ⟨f, b, -, -, -, -, -, -, hc, -⟩ :=
    recordOp_spec (·.const) (fun _ _ _ _ _ _ _ => rfl) hh kind _ us _ constant wm outArr parent
  rwa [hrec] at hc

/-- **constants_never_get_grad.**  Whatever the back-propagation loop does — to completion or up to
an error — no constant tensor ever becomes a key of the gradient map (so none is ever stored a
gradient), provided the terminal tensor is not constant (`backward` on a constant tensor never
starts the loop, see `backward_on_constant_only_clears`). -/
theorem constants_never_get_grad (h : Heap) (L : Nat) (g : Val) (topo : List Nat)
    (hL : (h.t L).const = false) :
    ∀ t v, lookup t (backLoop h topo [(L, g)]).1 = some v → (h.t t).const = false :=
  backLoop_keys h (fun t => (h.t t).const = false) (fun _ _ _ _ hc _ => hc) topo [(L, g)]
    fun _ _ hv => (lookup_seed hv).1 ▸ hL

/-- **grads_only_on_reached_tensors.**  Every tensor that receives a gradient is the terminal
tensor itself or a non-constant input of an op whose output the loop visited: tensors the terminal
tensor does not depend on, and anything behind a constant, receive no contribution. -/
theorem grads_only_on_reached_tensors (h : Heap) (L : Nat) (g : Val) (topo : List Nat) :
    ∀ t v, lookup t (backLoop h topo [(L, g)]).1 = some v →
      t = L ∨ ∃ c f i, (h.t c).creator = some f ∧ i < (h.op f).vars.length ∧
        t = (h.op f).vars.getD i 0 ∧ (h.t t).const = false :=
  backLoop_keys h _ (fun c f i hcr hc hi => Or.inr ⟨c, f, i, hcr, hi, rfl, hc⟩) topo [(L, g)]
    fun _ _ hv => Or.inl (lookup_seed hv).1

/-- **backward_on_constant_only_clears.**  `backward` on a constant tensor stores no gradient
anywhere: it only clears the graph. -/
theorem backward_on_constant_only_clears (h : Heap) (L : Nat) (seed : Seed)
    (hL : (h.t L).const = true) : backward h L seed = .ok (clearGraph h.fuel h L) := by
  simp [backward, hL]

/-! ## Non-vacuity -/

/-- a heap with a constant leaf `c` and a non-constant leaf `x`, on which the example below runs `c * x` -/
def sampleHeap : Heap :=
  let h : Heap := {}
  let (h, a) := h.newArr ([2], [1, 2])
  let (h, c) := h.fresh
  let h := h.setT c { data := a, const := true }
  let (h, b) := h.newArr ([2], [3, 4])
  let (h, x) := h.fresh
  h.setT x { data := b, const := false }

example : resultConst none sampleHeap [1, 3] = false ∧ resultConst none sampleHeap [1, 1] = true ∧
    resultConst (some true) sampleHeap [1, 3] = true := by decide

end MG.C10
