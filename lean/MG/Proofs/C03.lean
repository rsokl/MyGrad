import MG.Core.Dtype

/-!
# C03 — forward results agree with NumPy in value, shape and dtype

Property theorems only.  Model: `MG/Core/Dtype.lean` (M7: NumPy-2 promotion with NEP-50 weak scalars,
MyGrad's operand casting `Tensor._op`, loop selection of the ufunc classes, `dtype=`, the result gate,
broadcasting), tied to NumPy and to MyGrad by the exhaustive tables of `harness/props/c03.py`.

What is logic about C03: MyGrad forwards `.data` arrays to the very NumPy kernel, so parity reduces to
(i) what the non-tensor operands are cast to before the call and (ii) which keyword arguments are passed.
(i) is decided here for every operand kind × dtype (× `dtype=` × ufunc class), by evaluating the complete finite
tables over the 14 ways NumPy can see an operand (`Operand.seen`): per pair of operands for the promotion and for the
loops chosen without `dtype=`, per operand for `dtype=` (`castable_cast`; the cast acts on each operand by itself).
The kernel's bits are trusted (NumPy is the oracle).

**The full statement is false of the code**: a Python scalar is turned into a 0-d float64 / int64 *array*
before the ufunc sees it, so NEP 50's weak-scalar rule never applies (`dtype_parity_neg`).  The proved
part (`dtype_parity_partial`, `ufunc_parity_exact`) names the excluded cells by a decidable predicate and
shows it is *exactly* the set of failing cells.
-/

namespace MG.C03
open MG.Dtype

instance : Enum Operand :=
  ⟨(Enum.all : List OKind).flatMap fun k => (Enum.all : List DT).map fun d => ⟨k, d⟩, by
    intro ⟨k, d⟩; cases k <;> cases d <;> decide⟩

instance : Enum Seen :=
  ⟨(Enum.all : List DT).map .strong ++ [.weakInt, .weakFloat], by
    intro s
    cases s with
    | strong d => exact List.mem_append_left _ (List.mem_map.mpr ⟨d, Enum.complete d, rfl⟩)
    | weakInt => decide
    | weakFloat => decide⟩

/-- what the cast does to the way NumPy sees an operand: weak scalars become strong defaults -/
def castSeen : Seen → Seen := Seen.default

theorem seen_cast (o : Operand) : (castOperand o).seen = castSeen o.seen := by
  obtain ⟨k, d⟩ := o; cases k <;> rfl

/-- `mgForward op args = kernel op (castOperands args)`, for the dtype -/
theorem mgUfuncDtype_eq (c : OpClass) (l : List Operand) (kw : Option DT) :
    mgUfuncDtype c l kw = ufuncSeen c ((l.map Operand.seen).map castSeen) kw := by
  simp only [mgUfuncDtype, npUfunc, List.map_map, Function.comp_def, seen_cast]

def rs2 (x y : Seen) : DT := (resultSeen [x, y]).getD .f64

theorem npResultType_seen (a b : Operand) : npResultType a b = rs2 a.seen b.seen := rfl

theorem mgResultType_seen (a b : Operand) : mgResultType a b = rs2 (castSeen a.seen) (castSeen b.seen) := by
  simp only [mgResultType, npResultType_seen, seen_cast]

/-- **the full statement (false of the code).**  For every pair of operands — tensor (n-d / 0-d), ndarray
(n-d / 0-d), NumPy scalar, Python bool / int / float, of every real dtype — MyGrad's result dtype is the
one NumPy-2 gives for the same call on the underlying arrays. -/
def dtype_parity_statement : Prop :=
  ∀ a b : Operand, mgResultType a b = npResultType a b

/-- F2: `mg.tensor(np.float32(1)) * 2.0` is float64, NumPy gives float32 -/
theorem dtype_parity_neg : ¬ dtype_parity_statement := by
  intro h
  exact absurd (h ⟨.tensorNd, .f32⟩ ⟨.pyFloat, .f64⟩) (by decide)

/-- a weak Python scalar `w` meets a strong operand `s` (tensor, array, NumPy scalar) whose dtype the
weak scalar would *not* have changed under NEP 50 but which MyGrad's float64 / int64 0-d array does
change: a Python int next to anything but bool, int64, float64; a Python float next to float16/32 -/
def weakMeetsNarrow (w s : Operand) : Bool :=
  !s.kind.isPy &&
    ((w.kind == .pyInt && !(s.dt == .bool || s.dt == .i64 || s.dt == .f64)) ||
     (w.kind == .pyFloat && (s.dt == .f16 || s.dt == .f32)))

def excluded (a b : Operand) : Bool := weakMeetsNarrow a b || weakMeetsNarrow b a

/-- `narrow w d`: weak scalar `w` next to a strong dtype `d` that MyGrad's cast widens -/
def narrow (w : Seen) (d : DT) : Bool :=
  match w with
  | .weakInt => !(d == .bool || d == .i64 || d == .f64)
  | .weakFloat => d == .f16 || d == .f32
  | _ => false

def exclS (x y : Seen) : Bool :=
  (match x, y with
   | .strong d, w => narrow w d
   | _, _ => false) ||
  (match y, x with
   | .strong d, w => narrow w d
   | _, _ => false)

/-- a Python bool is seen as `bool`, which no scalar widens, so it needs no case of its own -/
theorem weakMeetsNarrow_seen (w s : Operand) :
    weakMeetsNarrow w s = (match s.seen, w.seen with | .strong d, x => narrow x d | _, _ => false) := by
  obtain ⟨kw, dw⟩ := w
  obtain ⟨ks, ds⟩ := s
  cases kw with
  | pyInt | pyFloat => cases ks <;> cases ds <;> rfl
  | _ => cases ks <;> rfl

theorem excluded_seen (a b : Operand) : excluded a b = exclS a.seen b.seen := by
  unfold excluded
  rw [weakMeetsNarrow_seen, weakMeetsNarrow_seen, Bool.or_comm]
  rfl

theorem seen_table : ∀ x y : Seen,
    ((rs2 (castSeen x) (castSeen y) == rs2 x y) = !exclS x y) ∧
    (exclS x y = true → (canCast .safe (rs2 x y) (rs2 (castSeen x) (castSeen y)) &&
      !canCast .safe (rs2 (castSeen x) (castSeen y)) (rs2 x y)) = true) := by
  decide +kernel

/-- the excluded set is as small as is true: a cell is a dtype mismatch **iff** it is excluded — for every
operand kind × dtype pair (9216 cells, all of them) -/
theorem dtype_parity_exact (a b : Operand) : (mgResultType a b = npResultType a b) ↔ excluded a b = false := by
  rw [mgResultType_seen, npResultType_seen, excluded_seen]
  have h := (seen_table a.seen b.seen).1
  cases he : exclS a.seen b.seen <;> simp_all

/-- **dtype_parity_partial.**  Outside the excluded cells MyGrad's result dtype is NumPy's. -/
theorem dtype_parity_partial (a b : Operand) (h : excluded a b = false) : mgResultType a b = npResultType a b :=
  (dtype_parity_exact a b).mpr h

/-- in every excluded cell MyGrad's result is *wider* (NumPy's result casts safely to it, not back) -/
theorem excluded_is_widening (a b : Operand) (h : excluded a b = true) :
    canCast .safe (npResultType a b) (mgResultType a b) = true ∧
    canCast .safe (mgResultType a b) (npResultType a b) = false := by
  rw [mgResultType_seen, npResultType_seen]
  rw [excluded_seen] at h
  simpa using (seen_table a.seen b.seen).2 h

/-- without `dtype=`: in which cells of a class does the widening change the *output* dtype?
`compare` never (bool); `divide` only below float64 floats; `float` functions whenever the narrow dtype
needs less than a float64; the dtype-preserving classes always. -/
def exclNone (c : OpClass) (w : Seen) (d : DT) : Bool :=
  narrow w d &&
    (match c with
     | .compare => false
     | .divide => d == .f16 || d == .f32
     | .float => d.floatNeed < 64
     | _ => true)

/-- with `dtype=t`: MyGrad's int64 0-d array cannot be cast `same_kind` to an unsigned loop that NumPy
happily feeds a weak Python int to — the call raises where NumPy's succeeds -/
def exclKw (c : OpClass) (x y : Seen) (t : DT) : Bool :=
  match loopIn c t with
  | .error _ => false
  | .ok tin =>
    tin.kind == .u &&
      ((x == .weakInt && seenCastable y tin) || (y == .weakInt && seenCastable x tin))

def exclBinary (c : OpClass) (x y : Seen) : Option DT → Bool
  | none =>
    (match x, y with
     | .strong d, w => exclNone c w d
     | _, _ => false) ||
    (match y, x with
     | .strong d, w => exclNone c w d
     | _, _ => false)
  | some t => exclKw c x y t

def eqE (a b : Except Err DT) : Bool :=
  match a, b with
  | .ok x, .ok y => x == y
  | .error x, .error y => x == y
  | _, _ => false

theorem eqE_iff (a b : Except Err DT) : eqE a b = true ↔ a = b := by
  cases a <;> cases b <;> simp [eqE]

theorem guarded_inj {ε α : Type} {a b : Bool} {t : α} {e : ε} :
    ((if a then Except.ok t else .error e) = if b then .ok t else .error e) ↔ a = b := by
  cases a <;> cases b <;> simp

/-- the cast changes the loops an operand may go to in one case only: a Python int, which NumPy hands to every integer
loop, is an int64 array after the cast and no longer goes to an unsigned loop -/
theorem castable_cast : ∀ (tin : DT) (x : Seen),
    seenCastable (castSeen x) tin = (seenCastable x tin && !(tin.kind == .u && x == .weakInt)) ∧
    ((tin.kind == .u && x == .weakInt) = true → seenCastable x tin = true) := by
  decide +kernel

/-- with `dtype=`, class and keyword matter only through the input dtype `tin` of the selected loop -/
theorem castable_parity (tin : DT) (x y : Seen) :
    ([castSeen x, castSeen y].all (seenCastable · tin) == [x, y].all (seenCastable · tin)) =
      !(tin.kind == .u && ((x == .weakInt && seenCastable y tin) || (y == .weakInt && seenCastable x tin))) := by
  -- `castable_cast` for each operand; the rest is about five Booleans
  have pair : ∀ sx sy u wx wy : Bool, ((u && wx) = true → sx = true) → ((u && wy) = true → sy = true) →
      (((sx && !(u && wx)) && (sy && !(u && wy))) == (sx && sy)) = !(u && ((wx && sy) || (wy && sx))) := by decide
  obtain ⟨ex, hx⟩ := castable_cast tin x
  obtain ⟨ey, hy⟩ := castable_cast tin y
  simp only [List.all_cons, List.all_nil, Bool.and_true, ex, ey]
  exact pair _ _ _ _ _ hx hy

/-- **ufunc_parity_exact.**  For every ufunc class, every pair of operands as NumPy sees them, and every
`dtype=` (none or one of the twelve): MyGrad's output dtype — or error — equals NumPy's exactly when the
cell is not in `exclBinary`. -/
theorem ufunc_parity_exact (c : OpClass) (x y : Seen) (kw : Option DT) :
    (ufuncSeen c [castSeen x, castSeen y] kw = ufuncSeen c [x, y] kw) ↔ exclBinary c x y kw = false := by
  cases kw with
  | none =>
    have h : ∀ (c : OpClass) (x y : Seen), eqE (ufuncSeen c [castSeen x, castSeen y] none) (ufuncSeen c [x, y] none) =
        !exclBinary c x y none := by decide +kernel
    rw [← eqE_iff, h]
    cases exclBinary c x y none <;> simp
  | some t =>
    simp only [ufuncSeen, exclBinary, exclKw]
    cases loopIn c t with
    | error e => simp
    | ok tin =>
      -- either call succeeds, with `t`, exactly when both operands go to the loop
      dsimp only
      rw [guarded_inj, ← beq_iff_eq, castable_parity, Bool.not_eq_true']

/-- unary ufuncs: full parity — a lone Python scalar is resolved to its default dtype by NumPy too -/
theorem unary_parity_exact (c : OpClass) (x : Seen) (kw : Option DT) :
    ufuncSeen c [castSeen x] kw = ufuncSeen c [x] kw := by
  cases kw with
  | none =>
    exact (eqE_iff _ _).mp ((by decide +kernel : ∀ (c : OpClass) (x : Seen),
      eqE (ufuncSeen c [castSeen x] none) (ufuncSeen c [x] none) = true) c x)
  | some t =>
    -- with `dtype=` the model resolves a lone operand by `default` before anything else, and the cast is `default`
    have : (castSeen x).default = x.default := by cases x <;> rfl
    simp only [ufuncSeen, this]

/-- **ufunc_parity_partial** at the level of operands: outside the excluded cells the MyGrad call and the
NumPy call on the underlying arrays give the same dtype or fail alike. -/
theorem ufunc_parity_partial (c : OpClass) (a b : Operand) (kw : Option DT)
    (h : exclBinary c a.seen b.seen kw = false) :
    mgUfuncDtype c [a, b] kw = npUfunc c [a, b] kw := by
  rw [mgUfuncDtype_eq]
  exact (ufunc_parity_exact c a.seen b.seen kw).mpr h

/-- comparisons always agree in dtype (their *values* can still differ in the excluded cells: the
comparison is carried out in the wider type) -/
theorem compare_dtype_parity (a b : Operand) : mgUfuncDtype .compare [a, b] none = npUfunc .compare [a, b] none := by
  apply ufunc_parity_partial
  cases ha : a.seen <;> cases hb : b.seen <;> simp [exclBinary, exclNone]

/-- **cast_preserves_value.**  `np.asarray(v)` of a Python scalar holds exactly `v`: a bool stays that
bool, a float the same double, an int the same integer; ints within the int64 range get the default
integer dtype the model's `castOperand` assumes, and only ints beyond 64 bits have no real-dtype array. -/
theorem cast_preserves_value :
    (∀ v d w, castPy v = some (d, w) → w = v) ∧
    (∀ n : Int, -9223372036854775808 ≤ n → n < 9223372036854775808 →
      castPy (.int n) = some ((castOperand ⟨.pyInt, .i64⟩).dt, .int n)) ∧
    (∀ x, castPy (.float x) = some ((castOperand ⟨.pyFloat, .f64⟩).dt, .float x)) ∧
    (∀ b, castPy (.bool b) = some ((castOperand ⟨.pyBool, .bool⟩).dt, .bool b)) ∧
    (∀ n : Int, castPy (.int n) = none ↔ (n < -9223372036854775808 ∨ 18446744073709551616 ≤ n)) := by
  refine ⟨?_, fun n h1 h2 => if_pos ⟨h1, h2⟩, fun _ => rfl, fun _ => rfl, fun n => ?_⟩
  · intro v d w h
    cases v with
    | bool b => cases h; rfl
    | float x => cases h; rfl
    | int n =>
      simp only [castPy] at h
      split at h
      · cases h; rfl
      · split at h
        · cases h; rfl
        · cases h
  · simp only [castPy]
    split
    · simp only [reduceCtorEq, false_iff]; omega
    · split
      · simp only [reduceCtorEq, false_iff]; omega
      · simp only [true_iff]; omega

theorem bdim_comm (a b : Nat) : bdim a b = bdim b a := by
  unfold bdim
  by_cases h1 : a = b
  · subst h1; rfl
  · have h2 : ¬ b = a := fun e => h1 e.symm
    simp only [h1, h2, if_false]
    by_cases ha : a = 1 <;> by_cases hb : b = 1 <;> simp_all

theorem bcastRev_nil_right (l : List Nat) : bcastRev l [] = some l := by
  cases l <;> rfl

theorem bcastRev_nil_left (l : List Nat) : bcastRev [] l = some l := by
  cases l <;> rfl

/-- `bdim` as a partial join: characterisation -/
theorem bdim_eq_some {a b d : Nat} : bdim a b = some d ↔ ((a = b ∧ d = a) ∨ (a = 1 ∧ d = b) ∨ (b = 1 ∧ d = a)) := by
  unfold bdim
  split
  next h => subst h; simp [eq_comm]
  split
  next h1 h => subst h; simp [h1, Ne.symm h1, eq_comm]
  split
  next h1 _ h => subst h; simp [h1, eq_comm]
  next h1 h2 h3 => simp [h1, h2, h3]

theorem bdim_one_left (b : Nat) : bdim 1 b = some b := bdim_eq_some.mpr (.inr (.inl ⟨rfl, rfl⟩))

theorem bdim_one_right (a : Nat) : bdim a 1 = some a := bdim_eq_some.mpr (.inr (.inr ⟨rfl, rfl⟩))

theorem bdim_assoc (a b c : Nat) :
    (bdim a b).bind (fun d => bdim d c) = (bdim b c).bind (fun d => bdim a d) := by
  by_cases ha : a = 1
  · subst ha; simp [bdim_one_left]
  · by_cases hc : c = 1
    · subst hc
      simp [bdim_one_right]
    · by_cases hb : b = 1
      · subst hb
        simp [bdim_one_right, bdim_one_left]
      · have key : ∀ x y, x ≠ 1 → y ≠ 1 → bdim x y = if x = y then some x else none := by
          intro x y hx hy; unfold bdim; simp [hx, hy]
        rw [key a b ha hb, key b c hb hc]
        by_cases hab : a = b
        · subst hab
          by_cases hac : a = c
          · subst hac; simp [key a a ha ha]
          · simp [hac, key a c ha hc]
        · by_cases hbc : b = c
          · subst hbc; simp [hab, key a b ha hb]
          · simp [hab, hbc]

theorem bcastRev_comm (a b : List Nat) : bcastRev a b = bcastRev b a := by
  induction a generalizing b with
  | nil => simp [bcastRev, bcastRev_nil_right]
  | cons x xs ih =>
    cases b with
    | nil => simp [bcastRev]
    | cons y ys => simp only [bcastRev, bdim_comm x y, ih ys]

theorem bcastRev_cons (x y : Nat) (xs ys : List Nat) :
    bcastRev (x :: xs) (y :: ys) = (bdim x y).bind fun d => (bcastRev xs ys).map (d :: ·) := by
  simp only [bcastRev]
  cases bdim x y <;> cases bcastRev xs ys <;> rfl

theorem bcastRev_length {a b r : List Nat} (h : bcastRev a b = some r) :
    r.length = max a.length b.length := by
  induction a generalizing b r with
  | nil => rw [bcastRev_nil_left] at h; cases h; simp
  | cons x xs ih =>
    cases b with
    | nil => rw [bcastRev_nil_right] at h; cases h; simp
    | cons y ys =>
      simp only [bcastRev_cons, Option.bind_eq_some_iff, Option.map_eq_some_iff] at h
      obtain ⟨d, _, r', hr, rfl⟩ := h
      simp [ih hr]

/-- NumPy's rule per axis, counting axes from the last; an absent axis counts as 1 -/
theorem bcastRev_spec (a b r : List Nat) (h : bcastRev a b = some r) (i : Nat) :
    bdim (a.getD i 1) (b.getD i 1) = some (r.getD i 1) := by
  induction a generalizing b r i with
  | nil => rw [bcastRev_nil_left] at h; cases h; simp [bdim_one_left]
  | cons x xs ih =>
    cases b with
    | nil => rw [bcastRev_nil_right] at h; cases h; simp [bdim_one_right]
    | cons y ys =>
      simp only [bcastRev_cons, Option.bind_eq_some_iff, Option.map_eq_some_iff] at h
      obtain ⟨d, hd, r', hr, rfl⟩ := h
      cases i with
      | zero => simpa using hd
      | succ j => simpa using ih ys r' hr j

theorem bind_none' {α β : Type} (o : Option α) : (o.bind fun _ => (none : Option β)) = none := by
  cases o <;> rfl

theorem bcastRev_assoc (a b c : List Nat) :
    (bcastRev a b).bind (fun r => bcastRev r c) = (bcastRev b c).bind (fun r => bcastRev a r) := by
  induction a generalizing b c with
  | nil =>
    simp only [bcastRev_nil_left, Option.bind_some]
    cases bcastRev b c <;> simp
  | cons x xs ih =>
    cases b with
    | nil => simp only [bcastRev_nil_right, bcastRev_nil_left, Option.bind_some]
    | cons y ys =>
      cases c with
      | nil =>
        simp only [bcastRev_nil_right, Option.bind_some]
        cases bcastRev (x :: xs) (y :: ys) <;> simp
      | cons z zs =>
        -- on both sides the head goes through `bdim` twice and the tail through `bcastRev` twice, independently
        have L : (bcastRev (x :: xs) (y :: ys)).bind (fun r => bcastRev r (z :: zs)) =
            ((bdim x y).bind (bdim · z)).bind fun e => ((bcastRev xs ys).bind (bcastRev · zs)).map (e :: ·) := by
          simp only [bcastRev_cons, Option.bind_assoc, Option.bind_map, Function.comp_def]
          cases bdim x y <;> cases bcastRev xs ys <;> simp
        have R : (bcastRev (y :: ys) (z :: zs)).bind (fun r => bcastRev (x :: xs) r) =
            ((bdim y z).bind (bdim x ·)).bind fun e => ((bcastRev ys zs).bind (bcastRev xs ·)).map (e :: ·) := by
          simp only [bcastRev_cons, Option.bind_assoc, Option.bind_map, Function.comp_def]
          cases bdim y z <;> cases bcastRev ys zs <;> simp
        rw [L, R, bdim_assoc, ih]

/-- **shape_parity.**  The model's broadcasting rule is NumPy's: right-aligned, per axis equal-or-one
(`bcastRev_spec`), the result has the larger rank, the rule is commutative and associative and a 0-d operand is
neutral — for all shapes of all ranks (including empty axes). -/
theorem shape_parity :
    (∀ a b, broadcast a b = broadcast b a) ∧
    (∀ a b c, (broadcast a b).bind (fun r => broadcast r c) = (broadcast b c).bind (fun r => broadcast a r)) ∧
    (∀ a, broadcast a [] = some a ∧ broadcast [] a = some a) ∧
    (∀ a b r, broadcast a b = some r → r.length = max a.length b.length) ∧
    (∀ a b r i, broadcast a b = some r →
      bdim (a.reverse.getD i 1) (b.reverse.getD i 1) = some (r.reverse.getD i 1)) := by
  refine ⟨?_, ?_, ?_, ?_, ?_⟩
  · intro a b; simp only [broadcast, bcastRev_comm]
  · intro a b c
    -- `broadcast` is `bcastRev` between reversals, so the two sides are the reversals of the two sides of `bcastRev_assoc`
    have e := congrArg (Option.map List.reverse) (bcastRev_assoc a.reverse b.reverse c.reverse)
    simpa only [broadcast, Option.map_bind, Option.bind_map, Function.comp_def, List.reverse_reverse] using e
  · intro a; simp [broadcast, bcastRev, bcastRev_nil_right]
  · intro a b r h
    simp only [broadcast, Option.map_eq_some_iff] at h
    obtain ⟨r', hr, rfl⟩ := h
    simpa using bcastRev_length hr
  · intro a b r i h
    simp only [broadcast, Option.map_eq_some_iff] at h
    obtain ⟨r', hr, rfl⟩ := h
    simpa using bcastRev_spec _ _ _ hr i

theorem gate_real_untracked (d : DT) (c : CArg) (hc : c ≠ .bad) : ∃ k, gate false (.real d) c = .ok k := by
  cases c <;> simp_all [gate]

/-- **tracking_invariance.**  The dtype (hence the kernel call: same cast operands, same keyword
arguments) of a forward result does not read `TRACK_GRAPH` — `mgUfuncDtype` has no such argument — and
whenever the tracked call succeeds the untracked call succeeds with the same dtype; they can only differ
by the tracked call *refusing* an integer result with `constant=False`. -/
theorem tracking_invariance (c : OpClass) (l : List Operand) (kw : Option DT) (carg : CArg) (ac : Bool) :
    (∀ d k, mgUfunc true c l kw carg ac = .ok (d, k) →
      ∃ k', mgUfunc false c l kw carg ac = .ok (d, k') ∧ mgUfuncDtype c l kw = .ok d) ∧
    (∀ d k, mgUfunc false c l kw carg ac = .ok (d, k) →
      (∃ k', mgUfunc true c l kw carg ac = .ok (d, k')) ∨ (carg = .f ∧ d.isFloat = false)) := by
  unfold mgUfunc
  cases hdt : mgUfuncDtype c l kw with
  | error e => simp
  | ok d0 =>
    cases carg <;> cases ac <;> cases hf : d0.isFloat <;>
      simp [gate, DTy.isFloat, DTy.isIntOrBool, hf, Except.map]

-- the witness of `dtype_parity_neg`, spelled out
example : mgResultType ⟨.tensorNd, .f32⟩ ⟨.pyFloat, .f64⟩ = .f64 ∧
    npResultType ⟨.tensorNd, .f32⟩ ⟨.pyFloat, .f64⟩ = .f32 := by decide
-- int8 tensor + Python int; uint64 tensor + Python int (MyGrad: float64!)
example : mgResultType ⟨.tensorNd, .i8⟩ ⟨.pyInt, .i64⟩ = .i64 ∧ npResultType ⟨.tensorNd, .i8⟩ ⟨.pyInt, .i64⟩ = .i8 ∧
    mgResultType ⟨.tensorNd, .u64⟩ ⟨.pyInt, .i64⟩ = .f64 ∧ npResultType ⟨.tensorNd, .u64⟩ ⟨.pyInt, .i64⟩ = .u64 := by
  decide
-- non-excluded, non-trivial cells: float32 tensor with a float32 NumPy scalar; int8 with uint8 array
example : excluded ⟨.tensorNd, .f32⟩ ⟨.npScalar, .f32⟩ = false ∧ mgResultType ⟨.tensorNd, .f32⟩ ⟨.npScalar, .f32⟩ = .f32 ∧
    excluded ⟨.tensor0d, .i8⟩ ⟨.arrNd, .u8⟩ = false ∧ mgResultType ⟨.tensor0d, .i8⟩ ⟨.arrNd, .u8⟩ = .i16 := by decide
-- `dtype=uint8` with a Python int: NumPy succeeds, MyGrad's int64 0-d array is refused
example : eqE (ufuncSeen .arith [.strong .u8, .weakInt] (some .u8)) (.ok .u8) = true ∧
    eqE (ufuncSeen .arith [castSeen (.strong .u8), castSeen .weakInt] (some .u8)) (.error .typeError) = true := by
  decide
example : broadcast [2, 1, 3] [4, 1] = some [2, 4, 3] ∧ broadcast [2, 3] [4] = none ∧
    broadcast [0, 1] [1, 5] = some [0, 5] := by decide
-- tracking: an int result with constant=False is refused only while tracking
example : (mgUfunc true .arith [⟨.tensorNd, .i32⟩, ⟨.tensorNd, .i32⟩] none .f true).toOption = none ∧
    (mgUfunc false .arith [⟨.tensorNd, .i32⟩, ⟨.tensorNd, .i32⟩] none .f true).toOption = some (.i32, false) := by
  decide

end MG.C03
