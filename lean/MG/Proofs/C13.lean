import MG.Proofs.Lemmas.Placeholder
import MG.IO.EngIO
/-!
# C13 — a failed operation leaves no trace

In the engine model a failing (non-in-place) `Tensor._op` produces no heap at all, so the driver keeps
the old state (`failed_op_is_noop`).  A failing in-place update has, by the time the kernel raises,
already replaced the public tensors by placeholders in every recorded consumer; what is left behind is
what `DuplicatingGraph.restore_old_graph` makes of that — `restore_inverts_duplicate` shows it puts
every consumer back and never touched a public tensor; `restore_inverts_mkDupGraph` says the same of the functions
`_in_place_op` calls, for a tensor without live views.  The no-trace theorems for the whole `_in_place_op` stand in
`Lemmas/InPlaceRefine.lean` and `Lemmas/InPlaceView.lean`, which also use the sample heap `exHeap` of this file.
The last section shows that `DuplicatingGraph` discards the gradients of the whole view family, for any forest
(`GradMono`, `duplicate_post`, `mkDupGraph_discards_family_grads`).
-/
namespace MG.C13
open MG.Eng MG.ND

/-- **failed_op_is_noop.**  A failing statement that is not an in-place update leaves the driver's
whole state (all tensors, ops, buffers, the variable table) exactly as it was. -/
theorem failed_op_is_noop (d : DS) (name : Nat) (e : Err) :
    bind d name (.error e) = (d, e.name) := rfl

theorem t_setOp (h : Heap) (f : Nat) (o : OpRec) (t : Nat) : (h.setOp f o).t t = h.t t := rfl

theorem reroute_spec (h : Heap) (target source : Nat) (hne : target ≠ source) :
    (∀ t, (reroute h target source).t t = h.t t) ∧ (reroute h target source).bufs = h.bufs ∧
    (reroute h target source).next = h.next ∧
    (∀ f, ((reroute h target source).op f).vars =
      if f ∈ (h.t source).ops then (h.op f).vars.map (swapVar source target) else (h.op f).vars) :=
  ⟨reroute_t h _ _, reroute_bufs h _ _, reroute_next h _ _, reroute_vars h _ _⟩

/-- **restore_reroutes_back.**  Routing the consumers of `x` through a fresh placeholder `p` and then
back restores every op's variable list exactly, provided no op mentioned `p` before (placeholders get
fresh ids). -/
theorem restore_reroutes_back (vs : List Nat) (x p : Nat) (hp : p ∉ vs) :
    (vs.map (swapVar x p)).map (swapVar p x) = vs := by
  rw [List.map_map]
  conv => rhs; rw [← List.map_id vs]
  apply List.map_congr_left
  intro v hv
  simp only [Function.comp, swapVar, id]
  by_cases h1 : v = x
  · simp [h1]
  · have : v ≠ p := fun e => hp (e ▸ hv)
    simp [h1, this]

/-- the heap right after the placeholder object was created and given `x`'s state (before re-routing) -/
def phHeap (h : Heap) (x : Nat) : Heap :=
  (mirror h.fresh.1 h.fresh.2 x).modT h.fresh.2 ({ · with base := none })

/-- `restore_old_graph` for one placeholder, on any heap `C` that has the placeholder and the op records of
`mkPh h x bs` (the failure path runs it on that heap plus the unused copy of the base's data): every op gets its old
variables back -/
theorem reroute_back_vars (h C : Heap) (x : Nat) (bs : Option Nat) (hx : x ≠ h.next)
    (hfresh : ∀ f, h.next ∉ (h.op f).vars) (hCt : (C.t h.next).ops = (h.t x).ops)
    (hCop : ∀ f, C.op f = (C04V.mkPh h x bs).op f) (f : Nat) :
    ((reroute C x h.next).op f).vars = (h.op f).vars := by
  rw [reroute_vars, hCt, hCop, C04V.mkPh_op h x bs hx]
  split
  · exact restore_reroutes_back _ _ _ (hfresh f)
  · rfl

/-- **restore_inverts_duplicate** (base tensor without live views).  Let `x` hold no gradient and let
no op mention the id the placeholder will get.  Creating the placeholder graph of `x`
(`DuplicatingGraph(x)`) and then — as the failure path of `_in_place_op` does — restoring the old graph
(`restore_old_graph`) yields a heap in which every tensor that existed before is *unchanged* (value,
flag, base, creator, consumers, view children) and every op has exactly its old variables. -/
theorem restore_inverts_duplicate (h : Heap) (x : Nat)
    (hg : (h.t x).grad = none) (hx : x < h.next)
    (hfresh : ∀ f, h.next ∉ (h.op f).vars) :
    ∃ h2 p, makePlaceholder h x none = .ok (h2, p) ∧ p = h.next ∧
      (∀ t, t ≠ p → (reroute h2 x p).t t = h.t t) ∧ (reroute h2 x p).bufs = h.bufs ∧
      (∀ f, ((reroute h2 x p).op f).vars = (h.op f).vars) := by
  refine ⟨_, h.next, C04V.makePlaceholder_mkPh h x none hg, rfl, fun t ht => ?_, by simp, ?_⟩
  · rw [reroute_t, C04V.mkPh_t_ne _ _ _ _ ht]
  · exact reroute_back_vars h _ x none (by omega) hfresh (by simp) fun _ => rfl

end MG.C13

namespace MG.C04R
open MG.Eng MG.C13

/-- the one-node graph of a tensor without views -/
def G1 (x p : Nat) : DupGraph := ⟨[⟨x, p, none⟩]⟩

theorem G1_node (x p i : Nat) : (G1 x p).node? i = if x = i ∨ p = i then some ⟨x, p, none⟩ else none := by
  simp only [G1, DupGraph.node?, List.find?_cons, List.find?_nil]
  by_cases h : x = i ∨ p = i <;> simp only [h, decide_true, decide_false, if_true, if_false]

theorem G1_node_x (x p : Nat) : (G1 x p).node? x = some ⟨x, p, none⟩ := by rw [G1_node, if_pos (.inl rfl)]

theorem G1_base (x p : Nat) : (G1 x p).base = ⟨x, p, none⟩ := rfl

theorem G1_ph (x p i : Nat) (hi : i ≠ p) : (G1 x p).placeholderIfExists i = swapVar x p i := by
  unfold DupGraph.placeholderIfExists swapVar
  by_cases hx : i = x
  · rw [hx, G1_node_x, if_pos rfl]
  · rw [G1_node, if_neg (not_or.mpr ⟨Ne.symm hx, Ne.symm hi⟩), if_neg hx]

end MG.C04R

namespace MG.C13
open MG.Eng MG.ND MG.C04V MG.C04R

theorem duplicate_no_children (fuel : Nat) (h : Heap) (live : List Nat) (bp t : Nat) (nodes : List Node)
    (hc : liveChildren h live t = []) : duplicate (fuel + 1) h live bp t nodes = .ok (h, nodes) := by
  simp [duplicate, familyChildren, hc]

/-- the graph `DuplicatingGraph(x)` builds for a tensor without live views: one node -/
theorem mkDupGraph_no_views (h : Heap) (live : List Nat) (x : Nat) (hx : x < h.next)
    (hbase : (h.t x).base = none) (hnov : liveChildren h live x = []) :
    mkDupGraph h live x =
      .ok (reroute (phHeap (nullGrad h x) x) h.next x, ⟨[⟨x, h.next, none⟩]⟩) := by
  have hb0 : ((nullGrad h x).t x).base = none := by simp [hbase]
  have hch : liveChildren (mkPh (nullGrad h x) x none) live x = [] := by
    unfold liveChildren at hnov ⊢
    rw [mkPh_t_ne (nullGrad h x) x none x (Nat.ne_of_lt hx)]
    simpa using hnov
  unfold mkDupGraph
  show (match makePlaceholder (nullGrad h x) x ((nullGrad h x).t x).base with
    | .error e => _ | .ok (h, p) => _) = _
  rw [hb0, makePlaceholder_mkPh _ _ _ (by simp)]
  dsimp only [Heap.fuel]
  rw [duplicate_no_children _ _ _ _ _ _ hch]
  rfl

theorem dfs_single (h1 : Heap) (x p : Nat) (hvc : ∀ c ∈ (h1.t p).vchildren, c ≠ x ∧ c ≠ p) :
    (G1 x p).dfs h1 = [⟨x, p, none⟩] := by
  unfold DupGraph.dfs
  show DupGraph.dfs.go _ h1 (h1.next + 1 + 1) p = _
  unfold DupGraph.dfs.go
  rw [G1_node, if_pos (.inr rfl)]
  have : (h1.t p).vchildren.flatMap (DupGraph.dfs.go (G1 x p) h1 (h1.next + 1)) = [] := by
    apply List.flatMap_eq_nil_iff.mpr
    intro c hc
    obtain ⟨h1c, h2c⟩ := hvc c hc
    unfold DupGraph.dfs.go
    rw [G1_node, if_neg (not_or.mpr ⟨Ne.symm h1c, Ne.symm h2c⟩)]
  simp only [this]

theorem restore_single (h1 : Heap) (x p : Nat)
    (hvc : ∀ c ∈ (h1.t p).vchildren, c ≠ x ∧ c ≠ p) (hpb : (h1.t p).base = none) :
    (G1 x p).restore h1 = reroute h1 x p := by
  unfold DupGraph.restore
  rw [dfs_single h1 x p hvc]
  simp [hpb]

/-- **restore_inverts_mkDupGraph** (tensor that owns its memory, no live views).  For the *functions the
in-place machinery actually calls*: `DuplicatingGraph(x)` (`mkDupGraph`, which first discards `x`'s
gradient) succeeds, and `restore_old_graph` applied to its result gives back the heap of `x.null_grad()`:
every tensor other than the internal placeholder is as `null_grad` leaves it — value, flag, base,
creator, consumers, view children — no buffer was touched, and every op has exactly its old variables.
So a failing in-place update leaves no trace beyond the discarded gradient (which the update nulls up
front in any case). -/
theorem restore_inverts_mkDupGraph (h : Heap) (live : List Nat) (x : Nat) (hx : x < h.next)
    (hbase : (h.t x).base = none) (hnov : liveChildren h live x = [])
    (hvc : ∀ c ∈ (h.t x).vchildren, c ≠ x ∧ c ≠ h.next)
    (hfresh : ∀ f, h.next ∉ (h.op f).vars) :
    ∃ h2 g, mkDupGraph h live x = .ok (h2, g) ∧
      (∀ t, t ≠ h.next → (g.restore h2).t t = (nullGrad h x).t t) ∧
      (g.restore h2).bufs = h.bufs ∧
      (∀ f, ((g.restore h2).op f).vars = (h.op f).vars) := by
  refine ⟨_, _, mkDupGraph_no_views h live x hx hbase hnov, ?_⟩
  have hp : (mkPh (nullGrad h x) x none).t h.next = { (nullGrad h x).t x with base := none } :=
    mkPh_t_ph (nullGrad h x) x none
  have hr : (⟨[⟨x, h.next, none⟩]⟩ : DupGraph).restore (reroute (phHeap (nullGrad h x) x) h.next x) =
      reroute (mkPh (nullGrad h x) x none) x h.next :=
    restore_single (mkPh (nullGrad h x) x none) x h.next (by rw [hp]; simpa using hvc) (by rw [hp])
  rw [hr]
  refine ⟨fun t ht => ?_, by simp [nullGrad], ?_⟩
  · rw [reroute_t]; exact mkPh_t_ne (nullGrad h x) x none t ht
  · exact reroute_back_vars (nullGrad h x) _ x none (Nat.ne_of_lt hx) hfresh (by rw [mkPh_t_ph]) fun _ => rfl

/-- a leaf that was multiplied once (one consumer op) and holds a gradient -/
def exHeap : Heap :=
  { tens := [(0, { data := ⟨5, Desc.contig 0 [2]⟩, const := false, grad := some ([2], [1, 1]), ops := [1] })],
    ops := [(1, { kind := .mul, vars := [0, 0] })], bufs := [(5, [3, 4])], next := 6 }

/-- the hypotheses of `restore_inverts_mkDupGraph` are satisfiable (by a tensor that does hold a gradient) -/
example : (0 : Nat) < exHeap.next ∧ (exHeap.t 0).base = none ∧ liveChildren exHeap [0] 0 = [] ∧
    (∀ c ∈ (exHeap.t 0).vchildren, c ≠ 0 ∧ c ≠ exHeap.next) ∧ (∀ f, exHeap.next ∉ (exHeap.op f).vars) ∧
    (exHeap.t 0).grad.isSome := by
  refine ⟨by decide, rfl, rfl, ?_, ?_, rfl⟩
  · intro c hc
    cases hc
  · intro f
    rw [vars_of_ops_singleton (k := 1) rfl]
    split <;> decide

end MG.C13

namespace MG.C13
open MG.Eng MG.ND

/-- no tensor acquires a gradient: wherever `h` has none, `h'` has none -/
def GradMono (h h' : Heap) : Prop := ∀ x, (h.t x).grad = none → (h'.t x).grad = none

theorem GradMono.refl (h : Heap) : GradMono h h := fun _ hx => hx
theorem GradMono.trans {a b c : Heap} (h1 : GradMono a b) (h2 : GradMono b c) : GradMono a c :=
  fun x hx => h2 x (h1 x hx)

theorem gradMono_modT (h : Heap) (i : Nat) (f : Tens → Tens) (hf : ∀ t, t.grad = none → (f t).grad = none) :
    GradMono h (h.modT i f) :=
  fun x => t_modT_rel (R := fun a b => a.grad = none → b.grad = none) h i x f id (hf _)

/-- `make_placeholder_tensor` never gives a gradient to anything: the placeholder mirrors a tensor without one -/
theorem makePlaceholder_gradMono {h h' : Heap} {x p : Nat} {b : Option Nat}
    (hm : makePlaceholder h x b = .ok (h', p)) : GradMono h h' := by
  obtain ⟨hg, rfl, rfl⟩ := C04V.makePlaceholder_ok hm
  intro y hy
  by_cases e : y = h.next
  · rw [e, C04V.mkPh_t_ph]; exact hg
  · rw [C04V.mkPh_t_ne _ _ _ _ e]; exact hy

/-- the step function of `_duplicate_graph`'s loop over the live view children -/
def dupStep (fuel : Nat) (live : List Nat) (basePh tensor : Nat) (acc : Heap × List Node) (child : Nat) :
    Except (Err × Heap) (Heap × List Node) :=
  let h0 := acc.1.modT child ({ · with grad := none, viewGrad := none })
  match makePlaceholder h0 child (some basePh) with
  | .error e => Except.error (e, h0)
  | .ok (h, p) => duplicate fuel h live basePh child (acc.2 ++ [Node.mk child p (some tensor)])

def DupPost (h : Heap) (nodes : List Node) (h' : Heap) (nodes' : List Node) : Prop :=
  GradMono h h' ∧ ∀ n ∈ nodes', n ∈ nodes ∨ (h'.t n.tensor).grad = none

theorem DupPost.refl (h : Heap) (nodes : List Node) : DupPost h nodes h nodes :=
  ⟨GradMono.refl h, fun _ hn => .inl hn⟩

theorem DupPost.trans {a b c : Heap} {na nb nc : List Node} (h1 : DupPost a na b nb) (h2 : DupPost b nb c nc) :
    DupPost a na c nc :=
  ⟨h1.1.trans h2.1, fun n hn => (h2.2 n hn).elim (fun hb => (h1.2 n hb).imp_right (h2.1 _)) .inr⟩

theorem DupPost.of_gradMono {h h' : Heap} (g : GradMono h h') (nodes : List Node) : DupPost h nodes h' nodes :=
  ⟨g, fun _ hn => .inl hn⟩

/-- a successful monadic fold stays within a preorder that every successful step stays within -/
theorem foldlM_rel {σ α ε} {R : σ → σ → Prop} (rfl' : ∀ s, R s s) (tr : ∀ {a b c}, R a b → R b c → R a c)
    {f : σ → α → Except ε σ} (hf : ∀ s a s', f s a = .ok s' → R s s') :
    ∀ (l : List α) (s s' : σ), l.foldlM f s = .ok s' → R s s'
  | [], s, s', hr => by cases hr; exact rfl' s
  | a :: l, s, s', hr => by
    rw [List.foldlM_cons] at hr
    cases hF : f s a with
    | error e => rw [hF] at hr; cases hr
    | ok s1 => rw [hF] at hr; exact tr (hf s a s1 hF) (foldlM_rel rfl' tr hf l s1 s' hr)

/-- one child: its gradient is discarded, its placeholder made, it enters the graph without a gradient, and its own
children follow (`ih`) -/
theorem dupStep_post {fuel : Nat} {live : List Nat} {bp t : Nat}
    (ih : ∀ h c nodes h' nodes', duplicate fuel h live bp c nodes = .ok (h', nodes') → DupPost h nodes h' nodes')
    (acc : Heap × List Node) (c : Nat) (r : Heap × List Node) (hr : dupStep fuel live bp t acc c = .ok r) :
    DupPost acc.1 acc.2 r.1 r.2 := by
  unfold dupStep at hr
  dsimp only at hr
  split at hr
  · cases hr
  · rename_i h1 p hmk
    have gm1 := makePlaceholder_gradMono hmk
    have enter : DupPost h1 acc.2 h1 (acc.2 ++ [Node.mk c p (some t)]) :=
      ⟨GradMono.refl _, fun n hn => (List.mem_append.mp hn).imp_right fun e => by
        rw [List.mem_singleton.mp e]; exact gm1 c (by simp)⟩
    exact (DupPost.of_gradMono ((gradMono_modT _ _ _ fun _ _ => rfl).trans gm1) _).trans
      (enter.trans (ih _ _ _ _ _ hr))

theorem duplicate_eq_fold (fuel : Nat) (h : Heap) (live : List Nat) (bp t : Nat) (nodes : List Node) :
    duplicate (fuel + 1) h live bp t nodes =
      (let children := familyChildren h live t
       if children.isEmpty then .ok (h, nodes)
       else match children.foldlM (dupStep fuel live bp t) (h, nodes) with
        | .error e => .error e
        | .ok (h, nodes) =>
          let phOf (t : Nat) : Nat := ((nodes.find? fun n => n.tensor = t).map (·.placeholder)).getD t
          .ok (h.modT (phOf t) ({ · with vchildren := children.map phOf }), nodes)) := by
  rfl

theorem duplicate_post : ∀ (fuel : Nat) (live : List Nat) (bp : Nat) (h : Heap) (t : Nat) (nodes : List Node)
    (h' : Heap) (nodes' : List Node),
    duplicate fuel h live bp t nodes = .ok (h', nodes') → DupPost h nodes h' nodes' := by
  intro fuel live bp
  induction fuel with
  | zero =>
    intro h t nodes h' nodes' hr
    cases hr
    exact .refl _ _
  | succ fuel ih =>
    intro h t nodes h' nodes' hr
    rw [duplicate_eq_fold] at hr
    dsimp only at hr
    split at hr
    · cases hr
      exact .refl _ _
    · -- the children one after the other, then the view children of `t`'s placeholder are set
      split at hr
      · cases hr
      · rename_i h2 nodes2 hf
        cases hr
        refine .trans (foldlM_rel (R := fun a b => DupPost a.1 a.2 b.1 b.2) (fun _ => .refl _ _) DupPost.trans
          (dupStep_post ih) _ _ _ hf) (.of_gradMono (gradMono_modT _ _ _ ?_) _)
        exact fun _ ht => ht

/-- **mkDupGraph_discards_family_grads** (any view forest).  When `DuplicatingGraph(base)` succeeds, the base
and every view placed in the graph hold no gradient any more, and no tensor anywhere acquired one: an in-place
update discards the — now stale — gradients of the whole view family before it rewires the graph (C07: "its
.grad and that of its views read None"), which is also why `make_placeholder_tensor`'s assertion can no longer
fire half-way through and leave a partly re-routed graph behind (C13). -/
theorem mkDupGraph_discards_family_grads (h : Heap) (live : List Nat) (base : Nat) (h' : Heap) (g : DupGraph)
    (hr : mkDupGraph h live base = .ok (h', g)) :
    (∀ n ∈ g.nodes, (h'.t n.tensor).grad = none) ∧
    (∀ x, x ≠ base → (h.t x).grad = none → (h'.t x).grad = none) := by
  unfold mkDupGraph at hr
  dsimp only at hr
  split at hr
  · cases hr
  · rename_i h1 p hmk
    split at hr
    · cases hr
    · rename_i h2 nodes hd
      cases hr
      -- the base loses its gradient first; nothing acquires one afterwards
      have g01 : GradMono h h1 := (gradMono_modT _ _ _ fun _ _ => rfl).trans (makePlaceholder_gradMono hmk)
      obtain ⟨g12, n12⟩ := duplicate_post _ live p h1 base _ _ _ hd
      refine ⟨fun n hn => (n12 n hn).elim (fun hin => ?_) id, fun x _ hg => g12 x (g01 x hg)⟩
      rw [List.mem_singleton.mp hin]
      exact g12 base (makePlaceholder_gradMono hmk base (by simp))

end MG.C13
