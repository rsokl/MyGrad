import MG.Core.Engine
/-!
# C06 — a view's gradient is the corresponding view of its base's gradient

The `.grad` of a view is obtained by replaying the view's chain of view-ops on the base's gradient
array.  Whether that replay yields *views* (shared memory) is a property of strided descriptors:
`ViewFn.apply` of `MG/Core/Engine.lean` over `Desc` of `MG/Core/NDIndex.lean`, which is compared with
NumPy itself on random strided windows by `harness/props/c06.py`.
-/
namespace MG.C06
open MG.Eng MG.ND

/-- replay a chain of view ops on a window; the flag says whether every step was a NumPy *view* -/
def applyChain : List ViewFn → Desc → Except Err (Desc × Bool)
  | [], d => .ok (d, true)
  | f :: fs, d =>
    match f.apply d with
    | .error e => .error e
    | .ok (d', v) =>
      match applyChain fs d' with
      | .error e => .error e
      | .ok (d'', v') => .ok (d'', v && v')

/-- **view_grad_is_view** (under `H_layout`).  If the base's gradient array is laid out exactly like
the base's data (`dg = dd`: same offset, shape and strides — what the first-contribution copy must
guarantee), then replaying *any* chain of view ops (slices, transposes, reshapes, new axes, …) on
the gradient takes exactly the decisions it takes on the data: it succeeds iff it does on the data,
every step is a view iff it is on the data, and it selects the same positions — so the view's
gradient is available, equals the chain applied to the base's gradient, and shares its memory. -/
theorem view_grad_is_view (fs : List ViewFn) (dd dg : Desc) (H_layout : dg = dd) :
    applyChain fs dg = applyChain fs dd ∧
    ∀ d v, applyChain fs dd = .ok (d, v) → ∃ d', applyChain fs dg = .ok (d', v) ∧ d'.positions = d.positions := by
  subst H_layout
  exact ⟨rfl, fun d v h => ⟨d, h, rfl⟩⟩

/-- The statement *without* `H_layout`: for base data and a gradient array of the same shape (but
possibly another memory layout) every chain that is a view on the data is a view on the gradient. -/
def view_grad_statement : Prop :=
  ∀ (fs : List ViewFn) (dd dg : Desc), dg.shape = dd.shape → dg.off = dd.off →
    ∀ d, applyChain fs dd = .ok (d, true) → ∃ d', applyChain fs dg = .ok (d', true)

/-- **view_grad_neg.**  Without `H_layout` the statement is false: base of shape (2,3) with
C-ordered data, a gradient that arrived F-ordered (strides (1,2), e.g. through `b.T`), view
`reshape(6)`: a view of the data, but NumPy must *copy* the gradient. -/
theorem view_grad_neg : ¬ view_grad_statement := by
  intro h
  obtain ⟨d', hd'⟩ := h [.reshape [6]] (Desc.contig 0 [2, 3]) ⟨0, [2, 3], [1, 2]⟩ rfl rfl
    ⟨0, [6], [1]⟩ (by rfl)
  have e : applyChain [.reshape [6]] ⟨0, [2, 3], [1, 2]⟩ = .ok (Desc.contig 0 [6], false) := by rfl
  cases e.symm.trans hd'

/-- a C-contiguous window can be reshaped to any shape of the same size without copying -/
theorem reshape_contig_is_view (d : Desc) (sh : Shape) (hc : d.isCContig = true) :
    d.reshapeNoCopy sh = some ⟨d.off, sh, (cstrides sh).map Int.ofNat⟩ := by
  simp [Desc.reshapeNoCopy, hc]

/-- transposes, `.T`, new axes, squeezes and broadcasts never copy -/
theorem permuting_views_never_copy (f : ViewFn) (d d' : Desc) (v : Bool)
    (hf : match f with | .getitem _ => False | .reshape _ => False | _ => True)
    (h : f.apply d = .ok (d', v)) : v = true := by
  cases f with
  | getitem ix => cases hf
  | reshape t => cases hf
  | transpose axes =>
    simp only [ViewFn.apply] at h
    split at h <;> simp_all
  | tprop => simp only [ViewFn.apply, Except.ok.injEq, Prod.mk.injEq] at h; exact h.2.symm
  | expand ax =>
    simp only [ViewFn.apply] at h
    split at h <;> simp_all
  | squeeze ax =>
    simp only [ViewFn.apply] at h
    split at h <;> simp_all
  | broadcastTo sh =>
    simp only [ViewFn.apply] at h
    split at h <;> simp_all

/-- **permuting_views_layout_independent.**  For every view op other than basic indexing and `reshape`, whether it
succeeds, the shape of its result and the fact that the result is a view depend on the operand's *shape* only — never
on its offset or strides: C-ordered, Fortran-ordered and strided operands of one shape behave alike (`reshape` is the
one layout-dependent op; `reshape_contig_is_view` / `reshapeNoCopy` say when it copies). -/
theorem permuting_views_layout_independent (f : ViewFn) (d1 d2 : Desc) (hs : d1.shape = d2.shape)
    (hf : match f with | .getitem _ => False | .reshape _ => False | _ => True) :
    (match f.apply d1, f.apply d2 with
     | .ok (r1, v1), .ok (r2, v2) => r1.shape = r2.shape ∧ v1 = v2
     | .error e1, .error e2 => e1 = e2
     | _, _ => False) := by
  cases f with
  | getitem ix => cases hf
  | reshape t => cases hf
  | transpose axes =>
    simp only [ViewFn.apply, Desc.transpose, hs]
    by_cases h : isPerm d2.shape.length axes = true <;> simp [h]
  | tprop => simp [ViewFn.apply, Desc.T, hs]
  | expand ax =>
    simp only [ViewFn.apply, Desc.expandDims, hs]
    by_cases h : ax ≤ d2.shape.length <;> simp [h]
  | squeeze ax =>
    simp only [ViewFn.apply, Desc.squeeze, hs]
    by_cases h : d2.shape[ax]?.getD 0 = 1 <;> simp [h]
  | broadcastTo sh =>
    simp only [ViewFn.apply, Desc.broadcastTo, hs]
    by_cases h : broadcastableTo d2.shape sh = true <;> simp [h]

def ixOutcome : Except IxErr (Int × Shape × List Int) → Except IxErr Shape
  | .ok (_, s, _) => .ok s
  | .error e => .error e

/-- the error or the result shape of basic indexing, as a function of the index and the shape alone -/
def ixShape : List Ix → Shape → Except IxErr Shape
  | [], [] => .ok []
  | .newaxis :: r, sh => (ixShape r sh).map (1 :: ·)
  | .int i :: r, n :: sh =>
    if (if i < 0 then i + n else i) < 0 ∨ (if i < 0 then i + n else i) ≥ n then .error .indexError
    else ixShape r sh
  | .slice a b c :: r, n :: sh =>
    if c = 0 then .error .valueError else (ixShape r sh).map ((sliceAdjust n a b c).2 :: ·)
  | _, _ => .error .indexError

theorem applyIx_shape : ∀ (ixs : List Ix) (o : Int) (sh : Shape) (st : List Int), st.length = sh.length →
    ixOutcome (applyIx ixs o sh st) = ixShape ixs sh
  | [], _, [], [], _ => rfl
  | [], _, _ :: _, _ :: _, _ => rfl
  | .newaxis :: r, o, sh, st, h => by
    rw [applyIx, ixShape, ← applyIx_shape r o sh st h]
    cases applyIx r o sh st <;> rfl
  | .ellipsis :: _, _, [], [], _ => rfl
  | .ellipsis :: _, _, _ :: _, _ :: _, _ => rfl
  | .int _ :: _, _, [], [], _ => rfl
  | .int i :: r, o, n :: sh, k :: st, h => by
    rw [applyIx, ixShape, apply_ite ixOutcome, applyIx_shape r _ sh st (Nat.succ.inj h)]
    rfl
  | .slice .. :: _, _, [], [], _ => rfl
  | .slice a b c :: r, o, n :: sh, k :: st, h => by
    rw [applyIx, ixShape]
    split
    · rfl
    · rcases sliceAdjust n a b c with ⟨s0, len⟩
      dsimp only
      rw [← applyIx_shape r (if len = 0 then o else o + s0 * k) sh st (Nat.succ.inj h)]
      cases applyIx r (if len = 0 then o else o + s0 * k) sh st <;> rfl
  | _, _, [], _ :: _, h => nomatch h
  | _, _, _ :: _, [], h => nomatch h

theorem applyIx_layout_independent (ixs : List Ix) :
    ∀ (sh : Shape) (o1 o2 : Int) (st1 st2 : List Int), st1.length = sh.length → st2.length = sh.length →
      ixOutcome (applyIx ixs o1 sh st1) = ixOutcome (applyIx ixs o2 sh st2) :=
  fun sh o1 o2 st1 st2 h1 h2 => (applyIx_shape ixs o1 sh st1 h1).trans (applyIx_shape ixs o2 sh st2 h2).symm

/-- **getitem_layout_independent.**  Basic indexing, too, depends on the operand's shape only: for two windows of one
shape (each with one stride per axis), `x[ix]` fails with the same error or succeeds with the same result shape and
the same view-ness — whatever their offsets and strides.  Together with `permuting_views_layout_independent`:
`reshape` is the one view op whose outcome depends on the memory layout. -/
theorem getitem_layout_independent (ix : List Ix) (d1 d2 : Desc) (hs : d1.shape = d2.shape)
    (h1 : d1.strides.length = d1.shape.length) (h2 : d2.strides.length = d2.shape.length) :
    (match (ViewFn.getitem ix).apply d1, (ViewFn.getitem ix).apply d2 with
     | .ok (r1, v1), .ok (r2, v2) => r1.shape = r2.shape ∧ v1 = v2
     | .error e1, .error e2 => e1 = e2
     | _, _ => False) := by
  simp only [ViewFn.apply, Desc.index, hs]
  cases he : expandEllipsis d2.shape.length ix with
  | error e => simp
  | ok ixs =>
    simp only
    have := applyIx_layout_independent ixs d2.shape d1.off d2.off d1.strides d2.strides (by rw [h1, hs]) h2
    revert this
    cases applyIx ixs d1.off d2.shape d1.strides <;> cases applyIx ixs d2.off d2.shape d2.strides <;>
      simp_all [ixOutcome]

example : ((ViewFn.getitem [.int 1, .slice none none 2]).apply (Desc.contig 0 [2, 3])).toOption.map (fun r => (r.1.shape, r.2)) = some ([2], true) ∧
    ((ViewFn.getitem [.int 1, .slice none none 2]).apply ⟨0, [2, 3], [1, 2]⟩).toOption.map (fun r => (r.1.shape, r.2)) = some ([2], true) := by decide

example : ((ViewFn.tprop).apply (Desc.contig 0 [2, 3])).toOption.map (fun r => (r.1.shape, r.2)) =
    ((ViewFn.tprop).apply ⟨0, [2, 3], [1, 2]⟩).toOption.map (fun r => (r.1.shape, r.2)) := by decide

example : applyChain [.tprop, .getitem [.slice none none (-1)], .expand 0] (Desc.contig 0 [2, 3])
    = .ok (⟨2, [1, 3, 2], [0, -1, 3]⟩, true) := by rfl

/-- the reshape rule on a strided window: `x[::2]` of a (4,6) array can be viewed as (2,2,3) -/
theorem reshape_view_iff_mergeable_example :
    (⟨0, [2, 6], [12, 1]⟩ : Desc).reshapeNoCopy [2, 2, 3] = some ⟨0, [2, 2, 3], [12, 3, 1]⟩ ∧
    (⟨0, [3, 2], [1, 3]⟩ : Desc).reshapeNoCopy [6] = none := by decide

end MG.C06
