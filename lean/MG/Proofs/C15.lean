import MG.Core.Ctx

/-!
# C15 — `no_autodiff` / `mem_guard_on` / `mem_guard_off` are scoped and exception-safe

Model: `MG/Core/Ctx.lean` (tied to `mygrad._utils.ContextTracker` by the correspondence check
`harness/props/c15.py`).
-/

namespace MG.C15
open MG.Ctx

/-- bookkeeping invariant: every key of a manager's `_depth_tracker` is below its `_depth` -/
def MWF (m : MState) : Prop := ∀ p ∈ m.tracker, p.1 < m.depth

def WF (s : State) : Prop := MWF s.na ∧ MWF s.gon ∧ MWF s.goff

theorem wf_init : WF init := by
  simp [WF, MWF, init]

theorem erase_of_fresh (k : Nat) (l : List (Nat × Bool)) (h : ∀ p ∈ l, p.1 < k) :
    erase k l = l := by
  induction l with
  | nil => rfl
  | cons p l ih =>
    rw [erase, if_neg (Nat.ne_of_lt (h p (List.mem_cons_self ..))),
      ih fun q hq => h q (List.mem_cons_of_mem _ hq)]

theorem getM_setM_same (s : State) (m : Mgr) (x : MState) : getM (setM s m x) m = x := by
  cases m <;> rfl

theorem getM_setM (s : State) (m m' : Mgr) (x : MState) :
    getM (setM s m x) m' = if m' = m then x else getM s m' := by
  cases m <;> cases m' <;> rfl

theorem getM_setG (s : State) (m m' : Mgr) (v : Bool) : getM (setG s m v) m' = getM s m' := by
  cases m <;> cases m' <;> rfl

theorem getG_setG_same (s : State) (m : Mgr) (v : Bool) : getG (setG s m v) m = v := by
  cases m <;> rfl

theorem setM_getM (s : State) (m : Mgr) : setM s m (getM s m) = s := by
  cases m <;> rfl

theorem forall_mgr {P : Mgr → Prop} : (∀ m, P m) ↔ P .noAutodiff ∧ P .guardOn ∧ P .guardOff :=
  ⟨fun h => ⟨h _, h _, h _⟩,
   fun h m => match m with | .noAutodiff => h.1 | .guardOn => h.2.1 | .guardOff => h.2.2⟩

theorem wf_iff {s : State} : WF s ↔ ∀ m, MWF (getM s m) :=
  (forall_mgr (P := fun m => MWF (getM s m))).symm

/-- under the invariant the key `enter` files is fresh, so its `erase` (the dict overwrite) removes nothing -/
theorem getM_enter {s : State} {m : Mgr} (h : MWF (getM s m)) (m' : Mgr) : getM (enter s m) m' = if m' = m then
    ⟨(getM s m).depth + 1, ((getM s m).depth, getG s m) :: (getM s m).tracker⟩ else getM s m' := by
  unfold enter
  rw [getM_setG, getM_setM, erase_of_fresh _ _ h]

/-- `s2` is any state the body of the scope may leave: only `m`'s bookkeeping is assumed to be as `enter s m` set it -/
theorem exit_of_getM {s s2 : State} {m : Mgr} (h : MWF (getM s m)) (e : getM s2 m = getM (enter s m) m) :
    exit s2 m = some (setG (setM s2 m (getM s m)) m (getG s m)) := by
  simp only [exit, e, getM_enter h, lookup, erase, if_true, erase_of_fresh _ _ h]

theorem exit_enter (s : State) (m : Mgr) (h : WF s) : exit (enter s m) m = some s := by
  rw [exit_of_getM (wf_iff.1 h m) rfl]
  cases m <;> rfl

theorem wf_enter (s : State) (m : Mgr) (h : WF s) : WF (enter s m) := by
  refine wf_iff.2 fun m' => ?_
  rw [getM_enter (wf_iff.1 h m)]
  split
  · intro p hp
    rcases List.mem_cons.mp hp with rfl | hp
    · exact Nat.lt_succ_self _
    · exact Nat.lt_succ_of_lt (wf_iff.1 h m p hp)
  · exact wf_iff.1 h m'

def bk (s : State) : MState × MState × MState := (s.na, s.gon, s.goff)

theorem bk_eq_iff {s s' : State} : bk s' = bk s ↔ ∀ m, getM s' m = getM s m := by
  simp only [bk, Prod.mk.injEq]
  exact (forall_mgr (P := fun m => getM s' m = getM s m)).symm

theorem wf_of_bk {s s' : State} (h : WF s) (e : bk s' = bk s) : WF s' :=
  wf_iff.2 fun m => bk_eq_iff.1 e m ▸ wf_iff.1 h m

/-- one `with m:` step: its body kept the bookkeeping, so `__exit__` finds the entry `__enter__` filed -/
theorem scope_of_body {m : Mgr} {body : List Item} {s s2 : State} {exc : Bool} (h : WF s)
    (hrun : runBlock (enter s m) body = some (s2, exc)) (hbk : bk s2 = bk (enter s m)) :
    ∃ s3, runItem s (.scope m body) = some (s3, exc) ∧ getG s3 m = getG s m ∧ bk s3 = bk s ∧
      (s2 = enter s m → s3 = s) := by
  have e := bk_eq_iff.1 hbk
  have hex := exit_of_getM (wf_iff.1 h m) (e m)
  refine ⟨setG (setM s2 m (getM s m)) m (getG s m), by simp [runItem, hrun, hex], getG_setG_same ..,
    bk_eq_iff.2 fun m' => ?_, fun e2 => ?_⟩
  · rw [getM_setG, getM_setM, e m', getM_enter (wf_iff.1 h m)]
    split
    · subst m'; rfl
    · rfl
  · subst e2
    exact Option.some.inj (hex.symm.trans (exit_enter s m h))

mutual
theorem runItem_spec (i : Item) (s : State) (h : WF s) :
    ∃ s' exc, runItem s i = some (s', exc) ∧ bk s' = bk s ∧ (i.turnFree = true → s' = s) := by
  match i with
  | .scope m body =>
    obtain ⟨s2, exc, hrun, hbk, hfree⟩ := runBlock_spec body (enter s m) (wf_enter s m h)
    obtain ⟨s3, h3, _, hbk3, hs3⟩ := scope_of_body h hrun hbk
    exact ⟨s3, exc, h3, hbk3, fun ht => hs3 (hfree ht)⟩
  | .turn v => exact ⟨turn s v, false, rfl, rfl, fun ht => nomatch ht⟩
  | .raise => exact ⟨s, true, rfl, rfl, fun _ => rfl⟩
  | .nop => exact ⟨s, false, rfl, rfl, fun _ => rfl⟩
theorem runBlock_spec (b : List Item) (s : State) (h : WF s) :
    ∃ s' exc, runBlock s b = some (s', exc) ∧ bk s' = bk s ∧ (blockTurnFree b = true → s' = s) := by
  match b with
  | [] => exact ⟨s, false, rfl, rfl, fun _ => rfl⟩
  | i :: is =>
    obtain ⟨s1, exc, hi, hbk1, hf1⟩ := runItem_spec i s h
    have hsplit : blockTurnFree (i :: is) = true → i.turnFree = true ∧ blockTurnFree is = true :=
      Bool.and_eq_true_iff.1
    cases exc with
    | true => exact ⟨s1, true, by simp [runBlock, hi], hbk1, fun ht => hf1 (hsplit ht).1⟩
    | false =>
      obtain ⟨s2, exc', hb, hbk2, hf2⟩ := runBlock_spec is s1 (wf_of_bk h hbk1)
      exact ⟨s2, exc', by simp [runBlock, hi, hb], hbk2.trans hbk1,
        fun ht => (hf2 (hsplit ht).2).trans (hf1 (hsplit ht).1)⟩
end

theorem runItem_bk (i : Item) (s : State) (h : WF s) :
    ∃ s' exc, runItem s i = some (s', exc) ∧ bk s' = bk s :=
  let ⟨s', exc, h1, h2, _⟩ := runItem_spec i s h
  ⟨s', exc, h1, h2⟩

/-- **exit_restores_entry.**  For every manager `m`, every well-nested body over the three
managers (context-manager or decorator form, re-entrant, any depth) and whether or not the body
raises, leaving the scope restores exactly the state in force on entry — both module switches
and all depth bookkeeping — and never fails with a `KeyError`. -/
theorem exit_restores_entry (m : Mgr) (body : List Item) (s : State) (h : WF s)
    (ht : blockTurnFree body = true) :
    ∃ exc, runItem s (.scope m body) = some (s, exc) :=
  let ⟨_, exc, h1, _, hf⟩ := runItem_spec (.scope m body) s h
  ⟨exc, hf ht ▸ h1⟩

/-- **scope_restores_own_switch.**  Even when the body calls `turn_memory_guarding_on/off` (or is
any other well-nested word), leaving a scope (i) never fails, (ii) restores the switch that the
scope's manager controls to its value on entry, and (iii) leaves the depth bookkeeping of all
three managers exactly as on entry — so nothing leaks into later uses of the managers. -/
theorem scope_restores_own_switch (m : Mgr) (body : List Item) (s : State) (h : WF s) :
    ∃ s' exc, runItem s (.scope m body) = some (s', exc) ∧ getG s' m = getG s m ∧ bk s' = bk s :=
  let ⟨_, exc, hrun, hbk, _⟩ := runBlock_spec body (enter s m) (wf_enter s m h)
  let ⟨s3, h3, hg, hbk3, _⟩ := scope_of_body h hrun hbk
  ⟨s3, exc, h3, hg, hbk3⟩

/-- every state reachable from the initial one by well-nested words satisfies the invariant,
so the theorems above apply to every reachable state -/
theorem wf_reachable (b : List Item) (s' : State) (exc : Bool) (h : runBlock init b = some (s', exc)) :
    WF s' := by
  obtain ⟨s2, exc2, h2, hbk, _⟩ := runBlock_spec b init wf_init
  rw [h2] at h
  cases h
  exact wf_of_bk wf_init hbk

/-- **turn_sets_default.** Outside any scope the call sets the process-wide value, and it stays
in force across any later turn-free well-nested word. -/
theorem turn_sets_default (s : State) (v : Bool) (h : WF s) (b : List Item)
    (ht : blockTurnFree b = true) :
    ∃ exc, runBlock (turn s v) b = some (turn s v, exc) ∧ (turn s v).guard = v :=
  let ⟨_, exc, he, _, hf⟩ := runBlock_spec b (turn s v) h
  ⟨exc, hf ht ▸ he, rfl⟩

def sample : List Item :=
  [.scope .guardOff [.scope .guardOn [.scope .guardOff [.nop]], .scope .noAutodiff [.raise, .nop]]]

example : WF init ∧ blockTurnFree sample = true ∧
    runBlock init sample = some (init, true) := by
  refine ⟨wf_init, by decide, by decide⟩

/-- the hypotheses of `exit_restores_entry` are met in a non-initial reachable state -/
example : WF (enter (turn init false) .guardOn) :=
  wf_enter _ _ wf_init

end MG.C15
