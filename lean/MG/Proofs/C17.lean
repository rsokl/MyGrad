import MG.Core.Dtype

/-!
# C17 — tensor construction and conversion: copying, aliasing and dtype rules

Property theorems only.  Model: `MG/Core/Dtype.lean` (M7, the construction lattice), tied to
`mygrad.tensor`, `Tensor.__init__`, `astensor`, `asarray`, `Tensor.astype`, `Tensor.copy` and
`mygrad.tensor_creation.funcs` by the exhaustive cell-by-cell correspondence of `harness/props/c17.py`.

Every theorem quantifies over **every** cell of the lattice
input kind × source dtype × tensor state × dtype argument × constant argument × copy × ndmin relation ×
tracking switch (all of them finite types); none is checked on a sample.
-/

namespace MG.C17
open MG.Dtype

theorem gate_ok_not_bad {track : Bool} {dt : DTy} {c : CArg} {k : Bool} (h : gate track dt c = .ok k) :
    c ≠ .bad := by
  intro hc; subst hc; simp [gate] at h

/-- the `constant` flag of a new tensor: the argument if given, else "not a float" -/
def constOf (c : CArg) (isFloat : Bool) : Bool :=
  match c with
  | .t => true
  | .f => false
  | _ => !isFloat

def errOf {α : Type} : Except Err α → Option Err
  | .error e => some e
  | .ok _ => none

theorem gate_eq (track : Bool) (dt : DTy) (c : CArg) : gate track dt c =
    if c = .bad then .error .typeError
    else if dt.isFloat = false ∧ track = true ∧ dt.isIntOrBool = false then .error .typeError
    else if dt.isFloat = false ∧ track = true ∧ c = .f then .error .valueError
    else .ok (constOf c dt.isFloat) := by
  unfold gate
  cases c <;> cases track <;> cases dt.isFloat <;> cases dt.isIntOrBool <;> rfl

theorem ite_error_eq_ok {ε α : Type} {p : Prop} [Decidable p] {e : ε} {x : Except ε α} {a : α} :
    (if p then .error e else x) = .ok a ↔ ¬p ∧ x = .ok a := by
  split <;> simp [*]

theorem gate_const {track : Bool} {dt : DTy} {c : CArg} {k : Bool} (h : gate track dt c = .ok k) :
    k = constOf c dt.isFloat := by
  simp only [gate_eq, ite_error_eq_ok, Except.ok.injEq] at h
  exact h.2.2.2.symm

theorem gate_nonreal {dt : DTy} (c : CArg) (h : dt.isReal = false) : gate true dt c = .error .typeError := by
  cases dt with
  | real d => cases h
  | _ => cases c <;> rfl

theorem gate_int_false {dt : DTy} (h : dt.isIntOrBool = true) : gate true dt .f = .error .valueError := by
  cases dt with
  | real d => cases d <;> first | rfl | cases h
  | _ => cases h

theorem gate_tracking {dt : DTy} {c : CArg} {k : Bool} (h : gate true dt c = .ok k) :
    dt.isReal = true ∧ (dt.isIntOrBool = true → k = true) := by
  refine ⟨?_, fun hi => ?_⟩
  · cases hr : dt.isReal with
    | true => rfl
    | false => rw [gate_nonreal c hr] at h; cases h
  · have hk := gate_const h
    cases c with
    | f => rw [gate_int_false hi] at h; cases h
    | bad => exact absurd rfl (gate_ok_not_bad h)
    | t => exact hk
    | none =>
      cases dt with
      | real d => exact hk.trans hi
      | _ => cases hi

theorem map_ok {α β ε : Type} {x : Except ε α} {f : α → β} {r : β} (h : x.map f = .ok r) :
    ∃ k, x = .ok k ∧ r = f k := by
  cases x with
  | error e => cases h
  | ok k => exact ⟨k, rfl, (Except.ok.inj h).symm⟩

theorem tensorInit_ok {track : Bool} {s : Src} {dtype : Option DTy} {c : CArg} {copy : Bool} {nd : NdRel}
    {r : Res} (h : tensorInit track s dtype c copy nd = .ok r) :
    nd ≠ .bad ∧ ∃ k, gate track (outDt s.dt dtype) c = .ok k ∧
      r = { ident := if !copy && s.kind.hasBuffer && dtMatches s.dt dtype then .shares else .fresh
            dt := outDt s.dt dtype, const := k, hasCreator := false, hasGrad := false, hasBase := false
            extended := nd == .gt } := by
  simp only [tensorInit, ite_error_eq_ok] at h
  exact ⟨by simpa using h.2.1, map_ok h.2.2⟩

theorem passView_ok {track : Bool} {s : Src} {r : Res} (h : passView track s = .ok r) :
    ∃ k, gate track s.dt (if s.ts.const then CArg.t else CArg.f) = .ok k ∧
      r = { ident := .shares, dt := s.dt, const := k, hasCreator := track
            hasGrad := track && s.ts.hasGrad, hasBase := track, extended := true } :=
  map_ok h

theorem tensorFn_ok {track : Bool} {s : Src} {dtype : Option DTy} {c : CArg} {copy : Bool} {nd : NdRel}
    {r : Res} (h : tensorFn track s dtype c copy nd = .ok r) :
    (passes s dtype c copy = true ∧ nd = .gt ∧ passView track s = .ok r) ∨
    (passes s dtype c copy = true ∧ nd ≠ .gt ∧ r = passSame s) ∨
    (passes s dtype c copy = false ∧ tensorInit track s dtype c copy nd = .ok r) := by
  unfold tensorFn at h
  split at h
  next hp =>
    cases nd with
    | bad => cases h
    | gt => exact .inl ⟨hp, rfl, h⟩
    | neg | le => exact .inr (.inl ⟨hp, by decide, (Except.ok.inj h).symm⟩)
  next hp => exact .inr (.inr ⟨by simpa using hp, h⟩)

theorem passes_iff (s : Src) (dtype : Option DTy) (c : CArg) (copy : Bool) :
    passes s dtype c copy = true ↔
      (s.kind = .tensor ∧ copy = false ∧ constOk c s.ts.const = true ∧ dtMatches s.dt dtype = true) := by
  unfold passes
  cases copy <;> simp [and_assoc]

theorem tensorFn_copy (track : Bool) (s : Src) (dtype : Option DTy) (c : CArg) (nd : NdRel) :
    tensorFn track s dtype c true nd = tensorInit track s dtype c true nd := by
  have : passes s dtype c true = false := by simp [passes]
  simp [tensorFn, this]

theorem shares_or_fresh_ne_same (b : Bool) : (if b = true then Ident.shares else Ident.fresh) ≠ Ident.same := by
  cases b <;> simp

theorem tensorInit_tracked {s : Src} {dtype : Option DTy} {c : CArg} {copy : Bool} {nd : NdRel} {r : Res}
    (h : tensorInit true s dtype c copy nd = .ok r) :
    r.dt.isReal = true ∧ (r.dt.isIntOrBool = true → r.const = true) := by
  obtain ⟨_, k, hg, rfl⟩ := tensorInit_ok h
  exact gate_tracking hg

theorem tensorFn_tracked {s : Src} {dtype : Option DTy} {c : CArg} {copy : Bool} {nd : NdRel} {r : Res}
    (h : tensorFn true s dtype c copy nd = .ok r) (hns : r.ident ≠ .same) :
    r.dt.isReal = true ∧ (r.dt.isIntOrBool = true → r.const = true) := by
  rcases tensorFn_ok h with ⟨_, _, hv⟩ | ⟨_, _, rfl⟩ | ⟨_, hi⟩
  · obtain ⟨k, hg, rfl⟩ := passView_ok hv
    exact gate_tracking hg
  · exact absurd rfl hns
  · exact tensorInit_tracked hi

/-- **tensor_copies_by_default.**  `tensor(x)` and `Tensor(x)` with the default `copy=True`: whatever
the input (scalar, sequence, array, tensor in any graph state), dtype, constant, ndmin and tracking
switch, a successful call returns a new object with its own memory that is a graph leaf without
gradient — so later changes to `x` cannot be seen. -/
theorem tensor_copies_by_default (track : Bool) (s : Src) (dtype : Option DTy) (c : CArg) (nd : NdRel)
    (r : Res)
    (h : tensorFn track s dtype c true nd = .ok r ∨ tensorInit track s dtype c true nd = .ok r) :
    r.ident = .fresh ∧ r.hasCreator = false ∧ r.hasGrad = false ∧ r.hasBase = false := by
  rw [tensorFn_copy, or_self] at h
  obtain ⟨_, k, _, rfl⟩ := tensorInit_ok h
  simp

theorem init_reuse {track : Bool} {s : Src} {dtype : Option DTy} {c : CArg} {nd : NdRel} {r : Res}
    (h : tensorInit track s dtype c false nd = .ok r) :
    (r.ident ≠ .fresh ↔ (s.kind.hasBuffer = true ∧ dtMatches s.dt dtype = true)) := by
  obtain ⟨_, k, _, rfl⟩ := tensorInit_ok h
  cases hb : s.kind.hasBuffer <;> cases hm : dtMatches s.dt dtype <;> simp

/-- **nocopy_reuses_when_dtype_allows.**  With `copy=False` (for `tensor` and for `Tensor`) the result
reuses the input's memory — is the input itself or shares its buffer — exactly when the input owns an
array buffer (ndarray of any flavour, 0-d array, tensor) and no dtype change is requested. -/
theorem nocopy_reuses_when_dtype_allows (track : Bool) (s : Src) (dtype : Option DTy) (c : CArg)
    (nd : NdRel) (r : Res)
    (h : tensorFn track s dtype c false nd = .ok r ∨ tensorInit track s dtype c false nd = .ok r) :
    (r.ident ≠ .fresh ↔ (s.kind.hasBuffer = true ∧ dtMatches s.dt dtype = true)) := by
  rcases h with h | h
  · rcases tensorFn_ok h with ⟨hp, _, hv⟩ | ⟨hp, _, rfl⟩ | ⟨_, hi⟩
    · obtain ⟨hk, _, _, hm⟩ := (passes_iff ..).mp hp
      obtain ⟨k, _, rfl⟩ := passView_ok hv
      simp [hk, hm, SrcKind.hasBuffer]
    · obtain ⟨hk, _, _, hm⟩ := (passes_iff ..).mp hp
      simp [passSame, hk, hm, SrcKind.hasBuffer]
    · exact init_reuse hi
  · exact init_reuse h

/-- **astensor_identity_iff.**  `astensor(x, dtype, constant=)` returns the very object it was given
iff `x` is a tensor whose dtype and constant flag already match the request; and then — it being the
same object — creator, gradient, base, dtype and constant flag are exactly the input's. -/
theorem astensor_identity_iff (track : Bool) (s : Src) (dtype : Option DTy) (c : CArg) (r : Res)
    (h : astensorFn track s dtype c = .ok r) :
    (r.ident = .same ↔
      (s.kind = .tensor ∧ dtMatches s.dt dtype = true ∧ constOk c s.ts.const = true)) ∧
    (r.ident = .same → r.hasCreator = s.ts.hasCreator ∧ r.hasGrad = s.ts.hasGrad ∧
      r.hasBase = s.ts.hasBase ∧ r.const = s.ts.const ∧ r.dt = s.dt ∧ r.extended = false) := by
  unfold astensorFn at h
  rcases tensorFn_ok h with ⟨_, hn, _⟩ | ⟨hp, _, rfl⟩ | ⟨hp, hi⟩
  · cases hn
  · obtain ⟨hk, _, hco, hm⟩ := (passes_iff ..).mp hp
    simp [passSame, hk, hco, hm]
  · obtain ⟨_, k, _, rfl⟩ := tensorInit_ok hi
    have hne : ¬ (s.kind = .tensor ∧ dtMatches s.dt dtype = true ∧ constOk c s.ts.const = true) := by
      intro ⟨a, b, d⟩
      have := (passes_iff s dtype c false).mpr ⟨a, rfl, d, b⟩
      rw [hp] at this; cases this
    exact ⟨⟨fun hs => absurd hs (shares_or_fresh_ne_same _), fun h' => absurd h' hne⟩,
      fun hs => absurd hs (shares_or_fresh_ne_same _)⟩

/-- **astensor_shares_iff.**  `astensor` never copies when dtype allows: its result is the input or
shares the input's memory iff the input owns an array buffer and no dtype change is requested
(a changed `constant` flag alone never causes a copy). -/
theorem astensor_shares_iff (track : Bool) (s : Src) (dtype : Option DTy) (c : CArg) (r : Res)
    (h : astensorFn track s dtype c = .ok r) :
    (r.ident ≠ .fresh ↔ (s.kind.hasBuffer = true ∧ dtMatches s.dt dtype = true)) :=
  nocopy_reuses_when_dtype_allows track s dtype c .le r (Or.inl h)

/-- **asarray_same_iff.**  `asarray` hands back the very array (`a` itself, `t.data` for a tensor) iff the
input owns an array buffer, no dtype change is requested and the requested memory order is already
satisfied; the dtype of the result is the requested one, else the input's. -/
theorem asarray_same_iff (s : Src) (dtype : Option DTy) (o : Order) (lay : Layout) :
    ((asarrayFn s dtype o lay).1 = .same ↔
      (s.kind.hasBuffer = true ∧ dtMatches s.dt dtype = true ∧ orderOk o lay = true)) ∧
    ((asarrayFn s dtype o lay).1 ≠ .shares) ∧
    (asarrayFn s dtype o lay).2 = outDt s.dt dtype := by
  unfold asarrayFn
  cases hb : s.kind.hasBuffer <;> cases hm : dtMatches s.dt dtype <;> cases ho : orderOk o lay <;> simp

theorem astypeFn_ok {track : Bool} {sdt : DT} {ts : TState} {target : DTy} {casting : Casting}
    {copy : Bool} {c : CArg} {r : Res} (h : astypeFn track sdt ts target casting copy c = .ok r) :
    canCastY casting sdt target = true ∧
    (((!copy && target == .real sdt && constOk c ts.const) = true ∧
        r = { ident := .same, dt := .real sdt, const := ts.const, hasCreator := ts.hasCreator
              hasGrad := ts.hasGrad, hasBase := ts.hasBase, extended := false }) ∨
    ((!copy && target == .real sdt && constOk c ts.const) = false ∧
        ∃ k, gate track target c = .ok k ∧
          r = { ident := if !copy && target == .real sdt then .shares else .fresh, dt := target
                const := k, hasCreator := false, hasGrad := false, hasBase := false
                extended := false })) := by
  simp only [astypeFn, ite_error_eq_ok] at h
  refine ⟨by simpa using h.1, ?_⟩
  have h := h.2
  split at h
  next hs => exact .inl ⟨hs, (Except.ok.inj h).symm⟩
  next hs => exact .inr ⟨by simpa using hs, map_ok h⟩

/-- **astype_identity_iff.**  `t.astype(dtype, casting, copy, constant=)` returns `t` itself iff
`copy=False`, the dtype is unchanged and the constant flag matches. -/
theorem astype_identity_iff (track : Bool) (sdt : DT) (ts : TState) (target : DTy) (casting : Casting)
    (copy : Bool) (c : CArg) (r : Res) (h : astypeFn track sdt ts target casting copy c = .ok r) :
    (r.ident = .same ↔ (copy = false ∧ target = .real sdt ∧ constOk c ts.const = true)) := by
  obtain ⟨_, ⟨hs, rfl⟩ | ⟨hs, k, _, rfl⟩⟩ := astypeFn_ok h
  · cases copy <;> simp_all
  · constructor
    · intro h'; exact absurd h' (shares_or_fresh_ne_same _)
    · intro ⟨a, b, d⟩; subst a; subst b; simp [d] at hs

/-- **copy_astype_detached.**  `t.copy(constant=)` always returns a new tensor with its own memory, no
creator and no base (its gradient, if any, is a duplicate of `t`'s own gradient array).
`t.astype(...)` returns either `t` itself (see `astype_identity_iff`) or a tensor without creator, base
and gradient; with the default `copy=True` that tensor never shares memory with `t`, and with
`copy=False` it shares memory only if the dtype is unchanged. -/
theorem copy_astype_detached (track : Bool) (sdt : DT) (ts : TState) :
    (∀ c r, copyFn track sdt ts c = .ok r →
      r.ident = .fresh ∧ r.hasCreator = false ∧ r.hasBase = false ∧ r.dt = .real sdt ∧
      (r.hasGrad = true → ts.ownGrad = true)) ∧
    (∀ target casting copy c r, astypeFn track sdt ts target casting copy c = .ok r →
      (r.ident ≠ .same → r.hasCreator = false ∧ r.hasGrad = false ∧ r.hasBase = false ∧ r.dt = target) ∧
      (copy = true → r.ident = .fresh) ∧
      (r.ident = .shares → copy = false ∧ target = .real sdt)) := by
  constructor
  · intro c r h
    obtain ⟨k, _, rfl⟩ := map_ok h
    simp
  · intro target casting copy c r h
    obtain ⟨_, ⟨hs, rfl⟩ | ⟨hs, k, _, rfl⟩⟩ := astypeFn_ok h
    · cases copy <;> simp_all
    · cases copy <;> cases ht : (target == DTy.real sdt) <;> simp_all

/-- **nonreal_rejected_when_tracking.**  While the graph is tracked, no construction or conversion
entry point creates a tensor whose dtype is not bool / integer / float: a request whose resulting dtype
is non-real (complex, object — from the data or from the `dtype` argument) is a `TypeError`, for every
input kind, constant, copy and ndmin; `astype` and the creation routines likewise.  (A tensor handed
back unchanged by the pass-through is not a creation.) -/
theorem nonreal_rejected_when_tracking :
    (∀ s dtype c copy nd, (outDt s.dt dtype).isReal = false →
      tensorInit true s dtype c copy nd = .error .typeError) ∧
    (∀ s dtype c copy nd r, tensorFn true s dtype c copy nd = .ok r → r.ident ≠ .same →
      r.dt.isReal = true) ∧
    (∀ s dtype c copy nd r, tensorInit true s dtype c copy nd = .ok r → r.dt.isReal = true) ∧
    (∀ sdt ts target casting copy c, target.isReal = false →
      astypeFn true sdt ts target casting copy c = .error .typeError) ∧
    (∀ rt dtype inferred c p dk, creationFn true rt dtype inferred c p = .ok dk → dk.1.isReal = true) := by
  refine ⟨?_, fun _ _ _ _ _ _ h hns => (tensorFn_tracked h hns).1, fun _ _ _ _ _ _ h => (tensorInit_tracked h).1,
    ?_, ?_⟩
  · intro s dtype c copy nd hnr
    unfold tensorInit
    rw [gate_nonreal c hnr]
    cases c <;> cases nd <;> rfl
  · intro sdt ts target casting copy c hnr
    unfold astypeFn
    rw [gate_nonreal c hnr]
    have hne : (target == DTy.real sdt) = false := by
      cases target <;> first | rfl | cases hnr
    cases hcc : canCastY casting sdt target <;> simp [hne, Except.map]
  · intro rt dtype inferred c p dk h
    obtain ⟨k, hg, rfl⟩ := map_ok h
    exact (gate_tracking hg).1

/-- the tracking switch is what rejects: with tracking off every dtype is accepted (so the hypothesis
"while tracking" of the previous theorem is not vacuous and not redundant) -/
theorem nonreal_accepted_when_not_tracking (s : Src) (dtype : Option DTy) (copy : Bool) :
    ∃ r, tensorInit false s dtype .none copy .le = .ok r ∧ r.dt = outDt s.dt dtype := by
  simp [tensorInit, gate, Except.map]

/-- **int_bool_always_constant.**  While tracking, every tensor *created* with a bool / integer dtype
is a constant, whatever was asked; asking for `constant=False` is a `ValueError` (for a well-formed
call).  Holds for `tensor`, `Tensor`, `astensor`, `astype`, `copy` and the creation routines. -/
theorem int_bool_always_constant :
    (∀ s dtype c copy nd r, tensorFn true s dtype c copy nd = .ok r → r.ident ≠ .same →
      r.dt.isIntOrBool = true → r.const = true) ∧
    (∀ s dtype c copy nd r, tensorInit true s dtype c copy nd = .ok r →
      r.dt.isIntOrBool = true → r.const = true) ∧
    (∀ s dtype copy nd, (outDt s.dt dtype).isIntOrBool = true → nd ≠ .bad →
      tensorInit true s dtype .f copy nd = .error .valueError) ∧
    (∀ sdt ts target casting copy c r, astypeFn true sdt ts target casting copy c = .ok r →
      r.ident ≠ .same → r.dt.isIntOrBool = true → r.const = true) ∧
    (∀ sdt ts c r, copyFn true sdt ts c = .ok r → r.dt.isIntOrBool = true → r.const = true) ∧
    (∀ rt dtype inferred c p dk, creationFn true rt dtype inferred c p = .ok dk →
      dk.1.isIntOrBool = true → dk.2 = true) := by
  refine ⟨fun _ _ _ _ _ _ h hns => (tensorFn_tracked h hns).2, fun _ _ _ _ _ _ h => (tensorInit_tracked h).2,
    ?_, ?_, ?_, ?_⟩
  · intro s dtype copy nd hi hnd
    unfold tensorInit
    rw [gate_int_false hi]
    cases nd <;> first | rfl | exact absurd rfl hnd
  · intro sdt ts target casting copy c r h hns
    obtain ⟨_, ⟨_, rfl⟩ | ⟨_, k, hg, rfl⟩⟩ := astypeFn_ok h
    · exact absurd rfl hns
    · exact (gate_tracking hg).2
  · intro sdt ts c r h
    obtain ⟨k, hg, rfl⟩ := map_ok h
    exact (gate_tracking hg).2
  · intro rt dtype inferred c p dk h
    obtain ⟨k, hg, rfl⟩ := map_ok h
    exact (gate_tracking hg).2

/-- **result_dtype_rule.**  The dtype of a constructed tensor is the `dtype` argument if given, else the
dtype NumPy infers for the input — for every cell in which the call succeeds. -/
theorem result_dtype_rule (track : Bool) (s : Src) (dtype : Option DTy) (c : CArg) (copy : Bool)
    (nd : NdRel) (r : Res)
    (h : tensorFn track s dtype c copy nd = .ok r ∨ tensorInit track s dtype c copy nd = .ok r) :
    r.dt = outDt s.dt dtype := by
  have init : ∀ r, tensorInit track s dtype c copy nd = .ok r → r.dt = outDt s.dt dtype := by
    intro r h; obtain ⟨_, k, _, rfl⟩ := tensorInit_ok h; rfl
  have same : dtMatches s.dt dtype = true → outDt s.dt dtype = s.dt := by
    intro hm; cases dtype <;> simp_all [outDt, dtMatches]
  rcases h with h | h
  · rcases tensorFn_ok h with ⟨hp, _, hv⟩ | ⟨hp, _, rfl⟩ | ⟨_, hi⟩
    · obtain ⟨k, _, rfl⟩ := passView_ok hv
      exact (same ((passes_iff ..).mp hp).2.2.2).symm
    · exact (same ((passes_iff ..).mp hp).2.2.2).symm
    · exact init r hi
  · exact init r h

/-- **constant_rule.**  A newly created tensor is constant iff `constant=True` was passed, or nothing was
passed and its dtype is not a float. -/
theorem constant_rule (track : Bool) (s : Src) (dtype : Option DTy) (c : CArg) (copy : Bool)
    (nd : NdRel) (r : Res) (h : tensorInit track s dtype c copy nd = .ok r) :
    r.const = constOf c r.dt.isFloat := by
  obtain ⟨_, k, hg, rfl⟩ := tensorInit_ok h
  exact gate_const hg

/-- **creation_defaults.**  `zeros`, `ones`, `empty` called without `dtype` produce float32 (the documented
difference from NumPy); `eye`, `identity` float64. -/
theorem creation_defaults (track : Bool) (inferred : DTy) (c : CArg) (p : Bool) (dk : DTy × Bool) :
    (∀ rt, rt = .zeros ∨ rt = .ones ∨ rt = .empty →
      creationFn track rt none inferred c p = .ok dk → dk.1 = .real .f32) ∧
    (∀ rt, rt = .eye ∨ rt = .identity →
      creationFn track rt none inferred c p = .ok dk → dk.1 = .real .f64) := by
  constructor
  · intro rt hrt h
    obtain ⟨k, _, rfl⟩ := map_ok h
    rcases hrt with rfl | rfl | rfl <;> rfl
  · intro rt hrt h
    obtain ⟨k, _, rfl⟩ := map_ok h
    rcases hrt with rfl | rfl <;> rfl

/-- **creation_dtype_parity.**  With an explicit `dtype` every creation routine returns that dtype; and
apart from `zeros`/`ones`/`empty` the dtype MyGrad passes on when none is given is NumPy's own default
(or nothing at all, so that NumPy infers it). -/
theorem creation_dtype_parity :
    (∀ track rt d inferred c p dk, creationFn track rt (some d) inferred c p = .ok dk → dk.1 = d) ∧
    (∀ rt : Routine, rt ≠ .zeros → rt ≠ .ones → rt ≠ .empty → rt.default = rt.npDefault) ∧
    (∀ track rt inferred c p dk, rt.default = none → creationFn track rt none inferred c p = .ok dk →
      dk.1 = inferred) := by
  refine ⟨?_, ?_, ?_⟩
  · intro track rt d inferred c p dk h
    obtain ⟨k, _, rfl⟩ := map_ok h
    rfl
  · intro rt; cases rt <;> simp [Routine.default, Routine.npDefault]
  · intro track rt inferred c p dk hd h
    obtain ⟨k, _, rfl⟩ := map_ok h
    simp [creationDt, hd]

/-- a float32 leaf tensor that carries a gradient -/
def tGrad : Src := ⟨.tensor, .real .f32, ⟨false, false, true, true, false⟩⟩
def aF64 : Src := ⟨.arrOwn, .real .f64, default⟩

-- default construction from an array succeeds and is fresh
example : (tensorFn true aF64 none .none true .le).toOption =
    some ⟨.fresh, .real .f64, false, false, false, false, false⟩ := by decide
-- copy=False shares; a dtype change forces a copy
example : (tensorFn true aF64 none .none false .le).toOption.map (·.ident) = some .shares ∧
    (tensorFn true aF64 (some (.real .f32)) .none false .le).toOption.map (·.ident) = some .fresh := by
  decide
-- astensor passes a matching tensor through with its gradient, and does not when `constant` differs
example : (astensorFn true tGrad (some (.real .f32)) .f).toOption.map (fun r => (r.ident, r.hasGrad)) =
      some (.same, true) ∧
    (astensorFn true tGrad none .t).toOption.map (fun r => (r.ident, r.hasGrad, r.const)) =
      some (.shares, false, true) := by decide
-- ndmin beyond ndim on the pass-through: a view (creator + base) when tracking
example : (tensorFn true tGrad none .none false .gt).toOption.map
    (fun r => (r.ident, r.hasCreator, r.hasBase, r.hasGrad)) = some (.shares, true, true, true) := by decide
-- rejected: complex data while tracking; accepted with tracking off
example : errOf (tensorInit true ⟨.arrOwn, .c64, default⟩ none .none true .le) = some .typeError ∧
    (tensorInit false ⟨.arrOwn, .c64, default⟩ none .none true .le).toOption.map (·.dt) = some .c64 := by
  decide
example : errOf (tensorInit true ⟨.list, .real .i64, default⟩ none .f true .le) = some .valueError := by
  decide
example : (astypeFn true .f32 tGrad.ts (.real .f64) .any true .none).toOption.map
      (fun r => (r.ident, r.hasGrad)) = some (.fresh, false) ∧
    (copyFn true .f32 tGrad.ts .none).toOption.map (fun r => (r.ident, r.hasGrad)) = some (.fresh, true) := by
  decide

end MG.C17
