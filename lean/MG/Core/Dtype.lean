/-!
# M7 — dtypes, NumPy-2 (NEP 50) promotion, MyGrad's operand casting, and the construction lattice

Import-free, total and executable.  Two parts:

* **promotion / forward dtype** (property C03): the twelve real dtypes MyGrad admits, NumPy's
  `promote_types` and n-ary `result_type` on them, operand kinds with NEP-50 *weak* Python scalars,
  MyGrad's operand-casting pipeline (`Tensor._op`: every non-tensor operand becomes
  `Tensor(var, constant=True, copy=False)`, i.e. a Python scalar is a 0-d bool/int64/float64 *array*
  before the ufunc sees it), the loop selection of the representative ufunc classes, the `dtype=`
  keyword, the constant/dtype gate of the result tensor, and the broadcasting rule.
* **construction / conversion** (property C17): the decision functions of `mygrad.tensor`, `Tensor(...)`,
  `astensor`, `asarray`, `Tensor.astype`, `Tensor.copy` and the creation routines over the finite lattice
  input-kind × dtype × dtype-argument × constant × copy × ndmin-relation × tracking switch.

Both parts are run against the implementation, cell by cell, by `harness/props/c17.py` and
`harness/props/c03.py` through `MG/IO/DtypeIO.lean`.
-/

namespace MG.Dtype

/-! ## Finite enumerations (so that `∀ x, P x` over the lattice is decidable without any library) -/

class Enum (α : Type) where
  all : List α
  complete : ∀ a : α, a ∈ all

instance decForallEnum {α : Type} [Enum α] (p : α → Prop) [DecidablePred p] : Decidable (∀ a, p a) :=
  decidable_of_iff (∀ a ∈ (Enum.all : List α), p a)
    ⟨fun h a => h a (Enum.complete a), fun h a _ => h a⟩

instance decExistsEnum {α : Type} [Enum α] (p : α → Prop) [DecidablePred p] : Decidable (∃ a, p a) :=
  decidable_of_iff (∃ a ∈ (Enum.all : List α), p a)
    ⟨fun ⟨a, _, h⟩ => ⟨a, h⟩, fun ⟨a, h⟩ => ⟨a, Enum.complete a, h⟩⟩

instance : Enum Bool := ⟨[false, true], by intro x; cases x <;> decide⟩

instance {α : Type} [Enum α] : Enum (Option α) :=
  ⟨none :: (Enum.all : List α).map some, by
    intro a
    cases a with
    | none => exact List.mem_cons_self ..
    | some a => exact List.mem_cons_of_mem _ (List.mem_map.mpr ⟨a, Enum.complete a, rfl⟩)⟩

/-! ## The real dtypes -/

/-- the real dtypes MyGrad admits (`bool`, signed / unsigned integers, floats) -/
inductive DT where
  | bool | i8 | i16 | i32 | i64 | u8 | u16 | u32 | u64 | f16 | f32 | f64
  deriving DecidableEq, Repr, Inhabited

instance : Enum DT :=
  ⟨[.bool, .i8, .i16, .i32, .i64, .u8, .u16, .u32, .u64, .f16, .f32, .f64], by
    intro a; cases a <;> decide⟩

inductive Kind where
  | b | u | i | f
  deriving DecidableEq, Repr, Inhabited

def DT.kind : DT → Kind
  | .bool => .b
  | .i8 | .i16 | .i32 | .i64 => .i
  | .u8 | .u16 | .u32 | .u64 => .u
  | .f16 | .f32 | .f64 => .f

def DT.bits : DT → Nat
  | .bool => 8
  | .i8 | .u8 => 8
  | .i16 | .u16 | .f16 => 16
  | .i32 | .u32 | .f32 => 32
  | .i64 | .u64 | .f64 => 64

def DT.isFloat (d : DT) : Bool := d.kind == .f

def intOf (n : Nat) : DT :=
  if n ≤ 8 then .i8 else if n ≤ 16 then .i16 else if n ≤ 32 then .i32 else .i64
def uintOf (n : Nat) : DT :=
  if n ≤ 8 then .u8 else if n ≤ 16 then .u16 else if n ≤ 32 then .u32 else .u64
def floatOf (n : Nat) : DT :=
  if n ≤ 16 then .f16 else if n ≤ 32 then .f32 else .f64

/-- bits of the smallest float that holds every value of the dtype (`int8 → float16`, `int16 → float32`,
wider integers → `float64`); a float needs itself -/
def DT.floatNeed (d : DT) : Nat :=
  match d.kind with
  | .f => d.bits
  | .b => 16
  | _ => if d.bits ≤ 8 then 16 else if d.bits ≤ 16 then 32 else 64

/-- `numpy.promote_types` on the real dtypes -/
def promote (a b : DT) : DT :=
  match a.kind, b.kind with
  | .b, _ => b
  | _, .b => a
  | .f, _ => floatOf (max a.bits b.floatNeed)
  | _, .f => floatOf (max a.floatNeed b.bits)
  | .i, .i => intOf (max a.bits b.bits)
  | .u, .u => uintOf (max a.bits b.bits)
  | .u, .i => if a.bits < b.bits then b else if a.bits = 64 then .f64 else intOf (2 * a.bits)
  | .i, .u => if b.bits < a.bits then a else if b.bits = 64 then .f64 else intOf (2 * b.bits)

/-- n-ary `numpy.result_type` of *strong* dtypes.  NumPy does **not** fold `promote_types` from the left
(`result_type(int8, uint8, float16)` is `float16`, the left fold gives `float32`): once a float takes
part every integer only contributes the float it needs. -/
def resultStrong : List DT → Option DT
  | [] => none
  | d :: ds =>
    let l := d :: ds
    if l.any DT.isFloat then some (floatOf (l.foldl (fun m x => max m x.floatNeed) 0))
    else some (ds.foldl promote d)

/-! ## casting rules (`numpy.can_cast`) -/

inductive Casting where
  | safe | sameKind | any      -- `casting="unsafe"` (a Lean keyword, hence `any`)
  deriving DecidableEq, Repr, Inhabited

instance : Enum Casting := ⟨[.safe, .sameKind, .any], by intro x; cases x <;> decide⟩

def Kind.rank : Kind → Nat
  | .b => 0 | .u => 1 | .i => 2 | .f => 3

def canCast (c : Casting) (a b : DT) : Bool :=
  match c with
  | .any => true
  | .safe => promote a b == b
  | .sameKind => promote a b == b || a.kind.rank ≤ b.kind.rank

/-! ## Operand kinds and NEP 50 -/

/-- what an operand of a MyGrad function can be.  `tensorNd`/`tensor0d`: a `Tensor` holding an n-d / 0-d
array; the three Python scalars are *weak* for NumPy 2. -/
inductive OKind where
  | tensorNd | tensor0d | arrNd | arr0d | npScalar | pyBool | pyInt | pyFloat
  deriving DecidableEq, Repr, Inhabited

instance : Enum OKind :=
  ⟨[.tensorNd, .tensor0d, .arrNd, .arr0d, .npScalar, .pyBool, .pyInt, .pyFloat], by
    intro a; cases a <;> decide⟩

/-- an operand: its kind and the dtype of its data (ignored for Python scalars) -/
structure Operand where
  kind : OKind
  dt : DT
  deriving DecidableEq, Repr, Inhabited

def OKind.isPy : OKind → Bool
  | .pyBool | .pyInt | .pyFloat => true
  | _ => false

/-- how NumPy's promotion sees an operand.  A Python `bool` is *not* weak: it is `np.bool_`. -/
inductive Seen where
  | strong (d : DT) | weakInt | weakFloat
  deriving DecidableEq, Repr, Inhabited

/-- a weak scalar resolved to its default dtype (`int64` / `float64`) -/
def Seen.default : Seen → Seen
  | .weakInt => .strong .i64
  | .weakFloat => .strong .f64
  | s => s

/-- the NumPy call "on the underlying arrays": a tensor is replaced by its `.data` -/
def Operand.seen (o : Operand) : Seen :=
  match o.kind with
  | .pyBool => .strong .bool
  | .pyInt => .weakInt
  | .pyFloat => .weakFloat
  | _ => .strong o.dt

def strongs : List Seen → List DT
  | [] => []
  | .strong d :: l => d :: strongs l
  | _ :: l => strongs l

/-- NumPy-2 `result_type` of a list of operands (NEP 50): promote the strong dtypes; a weak float
lifts a non-float result to the default float, a weak int lifts `bool` to the default int; weak
scalars alone resolve to the defaults `int64` / `float64`. -/
def resultSeen (l : List Seen) : Option DT :=
  let wf := l.any (· == .weakFloat)
  let wi := l.any (· == .weakInt)
  match resultStrong (strongs l) with
  | none => if wf then some .f64 else if wi then some .i64 else none
  | some s =>
    if wf && !s.isFloat then some .f64
    else if wi && s == .bool then some .i64
    else some s

def npResultTypeN (l : List Operand) : Option DT := resultSeen (l.map Operand.seen)

/-- binary case; total (two operands always have a result type) -/
def npResultType (a b : Operand) : DT := (npResultTypeN [a, b]).getD .f64

/-! ## MyGrad's operand casting (`Tensor._op`, tensor_base.py:1088-1091)

```
tensor_vars = tuple(cls(var, constant=True, copy=False) if not isinstance(var, Tensor) else var ...)
```
`np.asarray(2.0)` is a 0-d float64 array, `np.asarray(2)` 0-d int64, `np.asarray(True)` 0-d bool; a NumPy
scalar becomes a 0-d array of its dtype.  The ufunc then receives `.data` of every tensor, so no weak
operand is left. -/
def castOperand (o : Operand) : Operand :=
  match o.kind with
  | .pyBool => ⟨.arr0d, .bool⟩
  | .pyInt => ⟨.arr0d, .i64⟩
  | .pyFloat => ⟨.arr0d, .f64⟩
  | .npScalar => ⟨.arr0d, o.dt⟩
  | .tensorNd => ⟨.arrNd, o.dt⟩
  | .tensor0d => ⟨.arr0d, o.dt⟩
  | .arrNd | .arr0d => o

def mgResultTypeN (l : List Operand) : Option DT := npResultTypeN (l.map castOperand)
def mgResultType (a b : Operand) : DT := npResultType (castOperand a) (castOperand b)

/-! ### values of cast Python scalars -/

/-- a Python scalar value (floats are represented by an opaque payload: `np.asarray(x)` stores the very
same IEEE double) -/
inductive PyVal where
  | bool (b : Bool) | int (n : Int) | float (bits : Nat)
  deriving DecidableEq, Repr

/-- the 0-d array `np.asarray(v)` holds: dtype and value; `none` = not a real-dtype array
(Python ints beyond 64 bits become `object` arrays, which `Tensor.__init__` rejects while tracking) -/
def castPy : PyVal → Option (DT × PyVal)
  | .bool b => some (.bool, .bool b)
  | .int n =>
    -- int64 range, then uint64 range
    if -9223372036854775808 ≤ n ∧ n < 9223372036854775808 then some (.i64, .int n)
    else if 9223372036854775808 ≤ n ∧ n < 18446744073709551616 then some (.u64, .int n)
    else none
  | .float x => some (.f64, .float x)

/-! ## ufunc classes: which loop NumPy selects for a resolved input dtype -/

inductive Err where
  | typeError | valueError
  deriving DecidableEq, Repr, Inhabited

/-- representative classes of the ufuncs MyGrad wraps, by output dtype as a function of the
promoted input dtype:
`arith` add, multiply, maximum, minimum, absolute · `noBool` subtract, negative, positive ·
`divide` true_divide · `float` sqrt, exp, log, sin …, arctan2, logaddexp · `toI8` power, square,
reciprocal (bool → int8) · `compare` the comparison operators -/
inductive OpClass where
  | arith | noBool | divide | float | toI8 | compare
  deriving DecidableEq, Repr, Inhabited

instance : Enum OpClass :=
  ⟨[.arith, .noBool, .divide, .float, .toI8, .compare], by intro x; cases x <;> decide⟩

/-- output dtype of the loop chosen for promoted input dtype `d` -/
def loopOut (c : OpClass) (d : DT) : Except Err DT :=
  match c with
  | .arith => .ok d
  | .noBool => if d == .bool then .error .typeError else .ok d
  | .divide => if d.isFloat then .ok d else .ok .f64
  | .float => .ok (floatOf d.floatNeed)
  | .toI8 => if d == .bool then .ok .i8 else .ok d
  | .compare => .ok .bool

/-- input dtype of the loop whose *output* is `t` (used when `dtype=t` is passed) -/
def loopIn (c : OpClass) (t : DT) : Except Err DT :=
  match c with
  | .arith => .ok t
  | .noBool | .toI8 => if t == .bool then .error .typeError else .ok t
  | .divide | .float => if t.isFloat then .ok t else .error .typeError
  | .compare => .error .typeError   -- not modelled: MyGrad's comparisons take no `dtype=`

/-- may NumPy pass an operand to a loop of input dtype `t` (ufunc casting rule `same_kind`)?
A weak Python int goes to every integer or float dtype, a weak float to every float dtype. -/
def seenCastable (s : Seen) (t : DT) : Bool :=
  match s with
  | .strong d => canCast .sameKind d t
  | .weakInt => t != .bool
  | .weakFloat => t.isFloat

/-- the loop of a float-only ufunc (`sqrt`, `exp`, `arctan2`, `logaddexp`, …; loops `e`, `f`, `d` only): NumPy
takes the first loop to which **every operand by itself** casts safely — so `int8` with `uint8` is float16
although their promoted type `int16` would need float32.  Weak scalars: a Python float next to non-float
operands, or a Python int next to bools only (→ default int), select the `d` loop; otherwise they do not
contribute. -/
def floatLoop (l : List Seen) : DT :=
  let ss := strongs l
  if ss.isEmpty then .f64
  else if l.any (· == .weakFloat) && !ss.any DT.isFloat then .f64
  else if l.any (· == .weakInt) && ss.all (· == .bool) then .f64
  else floatOf (ss.foldl (fun m x => max m x.floatNeed) 0)

/-- result dtype of a ufunc of class `c` as NumPy computes it for the operands as *it* sees them,
with optional `dtype=` -/
def ufuncSeen (c : OpClass) (l : List Seen) (kw : Option DT) : Except Err DT :=
  match kw with
  | none =>
    match c with
    | .float => if l.isEmpty then .error .typeError else .ok (floatLoop l)
    | _ =>
      match resultSeen l with
      | none => .error .typeError
      | some d => loopOut c d
  | some t =>
    match loopIn c t with
    | .error e => .error e
    | .ok tin =>
      -- a *lone* Python scalar (unary ufunc) is converted with `np.asarray` first: no weak handling
      let l' := match l with
        | [x] => [x.default]
        | _ => l
      if l'.all (seenCastable · tin) then .ok t else .error .typeError

def npUfunc (c : OpClass) (l : List Operand) (kw : Option DT) : Except Err DT :=
  ufuncSeen c (l.map Operand.seen) kw

/-- `mgForward op args := kernel op (castOperands args)` -/
def mgUfuncDtype (c : OpClass) (l : List Operand) (kw : Option DT) : Except Err DT :=
  npUfunc c (l.map castOperand) kw

/-! ## Extended dtypes for construction: the real ones plus representatives of the non-real ones -/

inductive DTy where
  | real (d : DT) | c64 | c128 | obj
  deriving DecidableEq, Repr, Inhabited

instance : Enum DTy :=
  ⟨(Enum.all : List DT).map .real ++ [.c64, .c128, .obj], by
    intro a
    cases a with
    | real d => exact List.mem_append_left _ (List.mem_map.mpr ⟨d, Enum.complete d, rfl⟩)
    | c64 => decide
    | c128 => decide
    | obj => decide⟩

/-- `issubclass(dtype, np.floating)` -/
def DTy.isFloat : DTy → Bool
  | .real d => d.isFloat
  | _ => false

/-- `issubclass(dtype, (np.integer, np.bool_))` — `CONSTANT_ONLY_DTYPES` -/
def DTy.isIntOrBool : DTy → Bool
  | .real d => !d.isFloat
  | _ => false

def DTy.isReal : DTy → Bool
  | .real _ => true
  | _ => false

/-- `numpy.can_cast` from a real dtype into the extended ones (`ndarray.astype(dtype, casting=…)`) -/
def canCastY (c : Casting) (a : DT) : DTy → Bool
  | .real b => canCast c a b
  | .c64 => match c with
    | .any => true | .sameKind => true | .safe => canCast .safe a .f32
  | .c128 => match c with
    | .any => true | .sameKind => true | .safe => canCast .safe a .f64
  | .obj => true

/-! ## The constant / dtype gate of `Tensor.__init__` (tensor_base.py:802-843) -/

/-- the `constant` argument: `None`, `True`, `False`, or something that is not a bool -/
inductive CArg where
  | none | t | f | bad
  deriving DecidableEq, Repr, Inhabited

instance : Enum CArg := ⟨[.none, .t, .f, .bad], by intro x; cases x <;> decide⟩

/-- ```
if constant is not None and not isinstance(constant, bool): raise TypeError
...
is_float = issubclass(dtype, np.floating)
if not is_float and _track.TRACK_GRAPH:
    if not issubclass(dtype, CONSTANT_ONLY_DTYPES): raise TypeError
    elif constant is False: raise ValueError
if constant is None: constant = not is_float
```
returns the `constant` flag of the new tensor -/
def gate (track : Bool) (dt : DTy) (c : CArg) : Except Err Bool :=
  if c == .bad then .error .typeError
  else if !dt.isFloat && track && !dt.isIntOrBool then .error .typeError
  else if !dt.isFloat && track && c == .f then .error .valueError
  else
    match c with
    | .t => .ok true
    | .f => .ok false
    | _ => .ok (!dt.isFloat)

/-- the tensor a ufunc call returns (`Tensor._op`): dtype from the kernel, `constant` from the graph
(`tracked`: all operands constant ⇒ `True`, else by dtype; untracked: by dtype), then the gate.
`allConst`: every operand is a constant tensor or a non-tensor. -/
def mgUfunc (track : Bool) (c : OpClass) (l : List Operand) (kw : Option DT) (carg : CArg)
    (allConst : Bool) : Except Err (DT × Bool) :=
  match mgUfuncDtype c l kw with
  | .error e => .error e
  | .ok d =>
    (gate track (.real d) (if carg == .none && track && allConst then CArg.t else carg)).map fun k => (d, k)

/-! ## Construction lattice -/

/-- kinds of objects handed to `tensor` / `Tensor` / `astensor` / `asarray` -/
inductive SrcKind where
  | pyBool | pyInt | pyFloat | list | nested
  | arrOwn | arrView | arrRO | arr0d | npScalar | tensor
  deriving DecidableEq, Repr, Inhabited

instance : Enum SrcKind :=
  ⟨[.pyBool, .pyInt, .pyFloat, .list, .nested, .arrOwn, .arrView, .arrRO, .arr0d,
    .npScalar, .tensor], by intro x; cases x <;> decide⟩

/-- does the object own array memory that `np.asarray` can hand back without copying? -/
def SrcKind.hasBuffer : SrcKind → Bool
  | .arrOwn | .arrView | .arrRO | .arr0d | .tensor => true
  | _ => false

/-- public state of a source tensor -/
structure TState where
  const : Bool
  hasCreator : Bool   -- `.creator is not None`
  hasGrad : Bool      -- `.grad is not None`
  ownGrad : Bool      -- `._grad is not None`: what `Tensor.copy` duplicates
  hasBase : Bool      -- `.base is not None`
  deriving DecidableEq, Repr, Inhabited

instance : Enum TState :=
  ⟨(Enum.all : List Bool).flatMap fun a => (Enum.all : List Bool).flatMap fun b =>
    (Enum.all : List Bool).flatMap fun c => (Enum.all : List Bool).flatMap fun d =>
    (Enum.all : List Bool).map fun e => ⟨a, b, c, d, e⟩, by
    intro ⟨a, b, c, d, e⟩
    cases a <;> cases b <;> cases c <;> cases d <;> cases e <;> decide⟩

structure Src where
  kind : SrcKind
  dt : DTy            -- dtype of `np.asarray(x)`
  ts : TState         -- meaningful for `kind = tensor` only
  deriving DecidableEq, Repr, Inhabited

/-- relation of the `ndmin` argument to the number of dimensions of the input:
negative · `0 ≤ ndmin ≤ ndim` · `ndmin > ndim` · not an integer -/
inductive NdRel where
  | neg | le | gt | bad
  deriving DecidableEq, Repr, Inhabited

instance : Enum NdRel := ⟨[.neg, .le, .gt, .bad], by intro x; cases x <;> decide⟩

/-- what the result is, relative to the input -/
inductive Ident where
  | same      -- the very same Python object
  | shares    -- a new object whose array shares memory with the input
  | fresh     -- a new object with its own memory
  deriving DecidableEq, Repr, Inhabited

structure Res where
  ident : Ident
  dt : DTy
  const : Bool
  hasCreator : Bool
  hasGrad : Bool
  hasBase : Bool
  extended : Bool     -- dimensions were prepended to reach `ndmin`
  deriving DecidableEq, Repr, Inhabited

def dtMatches (s : DTy) : Option DTy → Bool
  | none => true
  | some d => d == s

def outDt (s : DTy) : Option DTy → DTy
  | none => s
  | some d => d

/-- `arr_like.constant is constant` / `constant is None` -/
def constOk (c : CArg) (k : Bool) : Bool :=
  match c with
  | .none => true
  | .t => k
  | .f => !k
  | .bad => false

/-- `Tensor(x, dtype=, constant=, copy=, ndmin=)` under NumPy 2 (tensor_base.py:802-859):
`copy=False` → `np.asarray(x, dtype)` (+ prepended axes by indexing), else `np.array(x, dtype, copy=True,
ndmin)`; then the gate.  A new tensor never has a creator, a gradient or a base. -/
def tensorInit (track : Bool) (s : Src) (dtype : Option DTy) (c : CArg) (copy : Bool) (nd : NdRel) :
    Except Err Res :=
  if c == .bad then .error .typeError
  else if nd == .bad then .error .typeError
  else
    (gate track (outDt s.dt dtype) c).map fun k =>
      { ident := if !copy && s.kind.hasBuffer && dtMatches s.dt dtype then .shares else .fresh
        dt := outDt s.dt dtype, const := k, hasCreator := false, hasGrad := false, hasBase := false
        extended := nd == .gt }

/-- the pass-through of `mygrad.tensor` hands back the tensor itself -/
def passSame (s : Src) : Res :=
  { ident := .same, dt := s.dt, const := s.ts.const, hasCreator := s.ts.hasCreator
    hasGrad := s.ts.hasGrad, hasBase := s.ts.hasBase, extended := false }

/-- `Tensor._op(GetItem, arr_like, op_args=((None,)*k,), constant=arr_like.constant)`: tracked — a view with
creator and base; untracked — `cls(op_out, constant=…)`: no creator, no base.  The input's `constant` flag is
handed on explicitly in both modes -/
def passView (track : Bool) (s : Src) : Except Err Res :=
  (gate track s.dt (if s.ts.const then CArg.t else CArg.f)).map fun k =>
    { ident := .shares, dt := s.dt, const := k, hasCreator := track
      hasGrad := track && s.ts.hasGrad, hasBase := track, extended := true }

/-- the condition of the pass-through branch of `mygrad.tensor` -/
def passes (s : Src) (dtype : Option DTy) (c : CArg) (copy : Bool) : Bool :=
  s.kind == .tensor && !copy && constOk c s.ts.const && dtMatches s.dt dtype

/-- `mygrad.tensor(arr_like, dtype, constant=, copy=, ndmin=)` (tensor_base.py:255-270): the
pass-through branch for a tensor with `copy=False` whose dtype and constant already agree returns the
tensor itself, or — if `ndmin` asks for more dimensions — the view `arr_like[(None,)*k]`, an ordinary
`GetItem` op (so: a creator and a base when tracking, none otherwise; `constant` re-inferred). -/
def tensorFn (track : Bool) (s : Src) (dtype : Option DTy) (c : CArg) (copy : Bool) (nd : NdRel) :
    Except Err Res :=
  if passes s dtype c copy then
    match nd with
    | .bad => .error .typeError
    | .gt => passView track s
    | _ => .ok (passSame s)
  else tensorInit track s dtype c copy nd

/-- `astensor(t, dtype, constant=) = tensor(t, dtype, constant=constant, copy=False, ndmin=0)` -/
def astensorFn (track : Bool) (s : Src) (dtype : Option DTy) (c : CArg) : Except Err Res :=
  tensorFn track s dtype c false .le

/-! ### `mygrad.asarray` -/

inductive Order where
  | none | c | f | a | k
  deriving DecidableEq, Repr, Inhabited
instance : Enum Order := ⟨[.none, .c, .f, .a, .k], by intro x; cases x <;> decide⟩

/-- memory layout of the input's array: C-contiguous only, F-contiguous only, both (1-d / 0-d), neither -/
inductive Layout where
  | c | f | both | neither
  deriving DecidableEq, Repr, Inhabited
instance : Enum Layout := ⟨[.c, .f, .both, .neither], by intro x; cases x <;> decide⟩

def orderOk : Order → Layout → Bool
  | .c, .c | .c, .both => true
  | .c, _ => false
  | .f, .f | .f, .both => true
  | .f, _ => false
  | _, _ => true

/-- `asarray(a, dtype, order)`: `a.data` for a tensor, then `np.asarray`.  `same` here means: the very
array object (`a` itself, or `t.data`); anything else is a fresh array. -/
def asarrayFn (s : Src) (dtype : Option DTy) (o : Order) (lay : Layout) : Ident × DTy :=
  (if s.kind.hasBuffer && dtMatches s.dt dtype && orderOk o lay then .same else .fresh, outDt s.dt dtype)

/-! ### `Tensor.astype` and `Tensor.copy` -/

/-- ```
cast_data = self.data.astype(dtype=dtype, casting=casting, copy=copy)
if cast_data is self.data and (constant is None or self.constant is constant): return self
return type(self)(cast_data, copy=False, constant=constant)
``` -/
def astypeFn (track : Bool) (sdt : DT) (ts : TState) (target : DTy) (casting : Casting) (copy : Bool)
    (c : CArg) : Except Err Res :=
  if !canCastY casting sdt target then .error .typeError
  else if !copy && target == .real sdt && constOk c ts.const then
    .ok { ident := .same, dt := .real sdt, const := ts.const, hasCreator := ts.hasCreator
          hasGrad := ts.hasGrad, hasBase := ts.hasBase, extended := false }
  else
    (gate track target c).map fun k =>
      { ident := if !copy && target == .real sdt then .shares else .fresh, dt := target, const := k
        hasCreator := false, hasGrad := false, hasBase := false, extended := false }

/-- ```
copy = Tensor(np.copy(self.data), constant=(self.constant if constant is None else constant))
copy._grad = np.copy(self._grad) if self._grad is not None else None
``` -/
def copyFn (track : Bool) (sdt : DT) (ts : TState) (c : CArg) : Except Err Res :=
  (gate track (.real sdt) (if c == .none then (if ts.const then CArg.t else CArg.f) else c)).map fun k =>
    { ident := .fresh, dt := .real sdt, const := k, hasCreator := false, hasGrad := ts.ownGrad
      hasBase := false, extended := false }

/-! ### creation routines: default dtype when `dtype` is not passed (tensor_creation/funcs.py) -/

inductive Routine where
  | empty | ones | zeros            -- default `np.float32` (documented difference from NumPy)
  | eye | identity                  -- default `float`
  | full | arange | linspace | logspace | geomspace   -- `dtype=None` forwarded: NumPy infers
  | emptyLike | onesLike | zerosLike | fullLike       -- `dtype=None` forwarded: the prototype's dtype
  deriving DecidableEq, Repr, Inhabited

instance : Enum Routine :=
  ⟨[.empty, .ones, .zeros, .eye, .identity, .full, .arange, .linspace, .logspace, .geomspace,
    .emptyLike, .onesLike, .zerosLike, .fullLike], by intro x; cases x <;> decide⟩

/-- dtype MyGrad passes to the NumPy namesake when the caller gives none (`none` = NumPy infers) -/
def Routine.default : Routine → Option DT
  | .empty | .ones | .zeros => some .f32
  | .eye | .identity => some .f64
  | _ => none

/-- NumPy's own default for the namesake -/
def Routine.npDefault : Routine → Option DT
  | .empty | .ones | .zeros | .eye | .identity => some .f64
  | _ => none

/-- result dtype and constant flag of `routine(..., dtype=dtype, constant=c)`; `inferred` is the dtype
NumPy infers from the other arguments.  `_like` routines resolve `constant` from the prototype
(`_resolve_constant`): a constant-tensor or non-tensor prototype gives `constant=True`. -/
def Routine.isLike (r : Routine) : Bool :=
  r == .emptyLike || r == .onesLike || r == .zerosLike || r == .fullLike

def creationDt (r : Routine) (dtype : Option DTy) (inferred : DTy) : DTy :=
  match dtype with
  | some d => d
  | none => match r.default with
    | some d => .real d
    | none => inferred

def creationFn (track : Bool) (r : Routine) (dtype : Option DTy) (inferred : DTy) (c : CArg)
    (protoNonConstTensor : Bool) : Except Err (DTy × Bool) :=
  (gate track (creationDt r dtype inferred)
    (if r.isLike && c == .none && !protoNonConstTensor then CArg.t else c)).map fun k =>
      (creationDt r dtype inferred, k)

/-! ## Broadcasting of shapes (right-aligned; a dimension of 1 stretches) -/

def bdim (a b : Nat) : Option Nat :=
  if a = b then some a else if a = 1 then some b else if b = 1 then some a else none

/-- on reversed shapes (last axis first) -/
def bcastRev : List Nat → List Nat → Option (List Nat)
  | [], l => some l
  | l, [] => some l
  | a :: as, b :: bs =>
    match bdim a b, bcastRev as bs with
    | some d, some r => some (d :: r)
    | _, _ => none

def broadcast (a b : List Nat) : Option (List Nat) :=
  (bcastRev a.reverse b.reverse).map List.reverse

end MG.Dtype
